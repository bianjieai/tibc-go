import Tibc.Base.Core
import Tibc.Packet.Types
import Tibc.Routing.Rules
import Tibc.Packet.Keeper
import Tibc.App.ClassPath
import Tibc.App.Tokens
import Tibc.App.Transfer
import Tibc.MsgServer
import Tibc.World
import Tibc.LC.Tendermint
import Tibc.LC.Status
import Tibc.LC.Bsc
import Tibc.LC.Eth
import Tibc.Commitment.Verify
import Tibc.Genesis.Model
import Tibc.Host.Keys
import Tibc.Props.C01
import Tibc.Props.C02
import Tibc.Props.C03
import Tibc.Props.C04
import Tibc.Props.C05
import Tibc.Props.C06
import Tibc.Props.C07
import Tibc.Props.C08
import Tibc.Props.C09
import Tibc.Props.C10
import Tibc.Props.C11
import Tibc.Props.C12
import Tibc.Props.C13
import Tibc.Props.C14
import Tibc.Props.C15
import Tibc.Props.C16
import Tibc.Props.C17
import Tibc.Props.C18
import Tibc.Props.C19
import Tibc.Props.C20
import Tibc.Expect.Bsc
import Tibc.Expect.Determinism
import Tibc.Expect.Eth
import Tibc.Expect.Keys
import Tibc.Expect.Packet
