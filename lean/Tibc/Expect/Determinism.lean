import Tibc.Generated.Facts
/-
  C20: the state machine takes time from the block header only and uses no random source and
  nothing of the process environment. The extractor lists every reference to the host clock
  (`time.Now/Since/Until`), to `math/rand` / `crypto/rand`, to `os.Getenv & co.` and to temporary /
  per-user directories (`os.TempDir`, `ioutil.TempDir`, …) in the non-test
  files of `modules/tibc` (CLI, simulation and test helpers excluded). On the current tree all of
  them sit in the ethash port taken over from go-ethereum (progress logging while the
  verification cache is generated, temporary file names, and the miner, which the light client
  never runs), plus the fresh temporary directory `verifyCascadingFields` creates for the ethash cache
  of one seal check and removes afterwards. A new reference anywhere — e.g. `time.Now()` in a header check — changes the list and
  this proof no longer checks.
-/
namespace Tibc.Expect.Determinism

def expected : List String :=
  ["modules/tibc/light-clients/09-eth/types/algorithm.go:generateCache:time.Now",
   "modules/tibc/light-clients/09-eth/types/algorithm.go:generateCache:time.Since",
   "modules/tibc/light-clients/09-eth/types/algorithm.go:generateDataset:time.Now",
   "modules/tibc/light-clients/09-eth/types/algorithm.go:generateDataset:time.Since",
   "modules/tibc/light-clients/09-eth/types/ethash.go:memoryMapAndGenerate:math/rand.Int",
   "modules/tibc/light-clients/09-eth/types/header.go:verifyCascadingFields:io/ioutil.TempDir",
   "modules/tibc/light-clients/09-eth/types/sealer.go:Seal:crypto/rand.Int",
   "modules/tibc/light-clients/09-eth/types/sealer.go:Seal:crypto/rand.Reader",
   "modules/tibc/light-clients/09-eth/types/sealer.go:Seal:math/rand.New",
   "modules/tibc/light-clients/09-eth/types/sealer.go:Seal:math/rand.NewSource",
   "modules/tibc/light-clients/09-eth/types/sealer.go:loop:time.Now",
   "modules/tibc/light-clients/09-eth/types/sealer.go:loop:time.Since",
   "modules/tibc/light-clients/09-eth/types/sealer.go:submitWork:time.Now",
   "modules/tibc/light-clients/09-eth/types/sealer.go:submitWork:time.Since"]

/-- no source of node-dependent values outside the ethash port's logging / file naming / miner -/
theorem nondeterminism_sources_are_the_known_ones : Facts.nondetSites = expected := rfl

end Tibc.Expect.Determinism
