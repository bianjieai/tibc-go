import Tibc.Generated.Facts
import Tibc.Lemmas.HostKeys
/-
  The shapes of the packet store keys in the current source (`core/24-host/keys.go`, extracted on
  every run: the returned expression of each one-line builder) against the shapes `Host/Keys.lean`
  implements. A changed format string, argument order or prefix constant makes one of these `rfl`s
  fail. (The *behaviour* of the builders and of the iterators' key parser is compared on random
  names by the `keys` stream.)
-/
namespace Tibc.Expect.Keys
open Tibc.Host

/-- `packetPath src dst = join [src, dst]` -/
theorem packetPath_shape : Facts.hostShape_packetPath = "fmt.Sprintf(\"%s/%s\", sourceChain, destinationChain)" := rfl

/-- `seqPrefixPath pfx src dst = join [pfx, packetPath src dst, "sequences"]` -/
theorem seqPrefix_shapes :
    Facts.hostShape_PacketCommitmentPrefixPath = "fmt.Sprintf(\"%s/%s/%s\", KeyPacketCommitmentPrefix, packetPath(sourceChain, destinationChain), KeySequencePrefix)" ∧
    Facts.hostShape_PacketAcknowledgementPrefixPath = "fmt.Sprintf(\"%s/%s/%s\", KeyPacketAckPrefix, packetPath(sourceChain, destinationChain), KeySequencePrefix)" ∧
    Facts.hostShape_PacketReceiptPrefixPath = "fmt.Sprintf(\"%s/%s/%s\", KeyPacketReceiptPrefix, packetPath(sourceChain, destinationChain), KeySequencePrefix)" :=
  ⟨rfl, rfl, rfl⟩

/-- `seqPath pfx src dst n = join [seqPrefixPath pfx src dst, digits n]` -/
theorem seqPath_shapes :
    Facts.hostShape_PacketCommitmentPath = "fmt.Sprintf(\"%s/%d\", PacketCommitmentPrefixPath(sourceChain, destinationChain), sequence)" ∧
    Facts.hostShape_PacketAcknowledgementPath = "fmt.Sprintf(\"%s/%d\", PacketAcknowledgementPrefixPath(sourceChain, destinationChain), sequence)" ∧
    Facts.hostShape_PacketReceiptPath = "fmt.Sprintf(\"%s/%d\", PacketReceiptPrefixPath(sourceChain, destinationChain), sequence)" :=
  ⟨rfl, rfl, rfl⟩

/-- `pairPath pfx src dst = join [pfx, packetPath src dst]` -/
theorem pairPath_shapes :
    Facts.hostShape_CleanPacketCommitmentPath = "fmt.Sprintf(\"%s/%s\", KeyCleanPacketCommitmentPrefix, packetPath(sourceChain, destinationChain))" ∧
    Facts.hostShape_MaxAckSeqPath = "fmt.Sprintf(\"%s/%s\", keyMaxAckSeqPrefix, packetPath(sourceChain, destinationChain))" ∧
    Facts.hostShape_NextSequenceSendPath = "fmt.Sprintf(\"%s/%s\", KeyNextSeqSendPrefix, packetPath(sourceChain, destChain))" :=
  ⟨rfl, rfl, rfl⟩

/-- a key is the byte string of its path -/
theorem key_shapes :
    Facts.hostShape_PacketCommitmentKey = "[]byte(PacketCommitmentPath(sourceChain, destinationChain, sequence))" ∧
    Facts.hostShape_PacketAcknowledgementKey = "[]byte(PacketAcknowledgementPath(sourceChain, destinationChain, sequence))" ∧
    Facts.hostShape_PacketReceiptKey = "[]byte(PacketReceiptPath(sourceChain, destinationChain, sequence))" ∧
    Facts.hostShape_CleanPacketCommitmentKey = "[]byte(CleanPacketCommitmentPath(sourceChain, destinationChain))" ∧
    Facts.hostShape_MaxAckSeqKey = "[]byte(MaxAckSeqPath(sourceChain, destinationChain))" ∧
    Facts.hostShape_NextSequenceSendKey = "[]byte(NextSequenceSendPath(sourceChain, destChain))" :=
  ⟨rfl, rfl, rfl, rfl, rfl, rfl⟩

/-- the prefix constants the model uses are the source's: each is the `toList` of the same literal -/
theorem prefixes :
    String.ofList commitPfx = Facts.hostKeyPacketCommitmentPrefix ∧ String.ofList ackPfx = Facts.hostKeyPacketAckPrefix ∧
    String.ofList receiptPfx = Facts.hostKeyPacketReceiptPrefix ∧ String.ofList cleanPfx = Facts.hostKeyCleanPacketCommitmentPrefix ∧
    String.ofList maxAckPfx = Facts.hostKeyMaxAckSeqPrefix ∧ String.ofList nextSendPfx = Facts.hostKeyNextSeqSendPrefix ∧
    String.ofList sequencesSeg = Facts.hostKeySequencePrefix :=
  ⟨String.ofList_toList, String.ofList_toList, String.ofList_toList, String.ofList_toList, String.ofList_toList,
   String.ofList_toList, String.ofList_toList⟩

theorem prefixes_noslash :
    '/' ∉ commitPfx ∧ '/' ∉ ackPfx ∧ '/' ∉ receiptPfx ∧ '/' ∉ cleanPfx ∧ '/' ∉ maxAckPfx ∧ '/' ∉ nextSendPfx :=
  ⟨commitPfx_noslash, ackPfx_noslash, receiptPfx_noslash, cleanPfx_noslash, maxAckPfx_noslash, nextSendPfx_noslash⟩

end Tibc.Expect.Keys
