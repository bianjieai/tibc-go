import Tibc.Generated.Facts
import Tibc.App.Transfer
/-
  What the packet / application model assumes about store keys and names of the current source:
  the model keeps every key family of the packet sub-store in a separate map, which is sound only
  if no key of one family can equal (or be a prefix of) a key of another.
-/
namespace Tibc.Expect.Packet

def withSlash (s : String) : List Char := s.toList ++ ['/']

/-- **The key spaces of the packet sub-store are disjoint**: no family's prefix (with its `/`)
    is a prefix of another family's. -/
theorem packet_key_spaces_disjoint :
    ∀ a ∈ Facts.hostPacketPrefixes, ∀ b ∈ Facts.hostPacketPrefixes, a ≠ b →
      (withSlash a).isPrefixOf (withSlash b) = false := by
  decide +kernel

theorem six_families : Facts.hostPacketPrefixes.length = 6 := rfl

theorem client_prefixes : Facts.hostKeyClientStorePrefix = "clients" ∧ Facts.hostKeyConsensusStatePrefix = "consensusStates" :=
  ⟨rfl, rfl⟩

theorem ports : nftPort = Facts.nftPort ∧ mtPort = Facts.mtPort := ⟨rfl, rfl⟩

theorem class_prefixes :
    String.ofList voucherPfx = Facts.nftClassPrefix ∧ String.ofList voucherPfx = Facts.mtClassPrefix ∧
    String.ofList nftPfx = Facts.nftClassPathPrefix ∧ String.ofList mtPfx = Facts.mtClassPathPrefix ∧
    String.singleton ClassPath.delim = Facts.nftDelimiter ∧ String.singleton ClassPath.delim = Facts.mtDelimiter :=
  ⟨String.ofList_toList, String.ofList_toList, String.ofList_toList, String.ofList_toList, rfl, rfl⟩

end Tibc.Expect.Packet
