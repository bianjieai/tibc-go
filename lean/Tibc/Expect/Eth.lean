import Tibc.Generated.Facts
import Tibc.Lemmas.Eth
/-
  What the ETH client model assumes about the constants of the current source
  (`Generated/Facts.lean` is rewritten from /repo on every run): each statement is closed by
  `rfl`, i.e. the model's definition *is* the formula over the extracted constants.
-/
namespace Tibc.Expect.Eth
open ETH

theorem bomb_delay : bombDelayFromParent + 1 = Facts.ethBombDelay := rfl

theorem gas_limit_rule (p h : Hdr) :
    gasLimitOk p h = (decide (absDiff p.gasLimit h.gasLimit < p.gasLimit / Facts.gethGasLimitBoundDivisor) &&
                      decide (h.gasLimit ≥ Facts.gethMinGasLimit)) := rfl

theorem base_fee_rule (p : Hdr) :
    calcBaseFee p =
      (let target := p.gasLimit / Facts.ethElasticityMultiplier
       if p.gasUsed == target then p.baseFee
       else if p.gasUsed > target then
         p.baseFee + max (p.baseFee * (p.gasUsed - target) / target / Facts.ethBaseFeeChangeDenominator) 1
       else p.baseFee - p.baseFee * (target - p.gasUsed) / target / Facts.ethBaseFeeChangeDenominator) := rfl

theorem future_and_structure (c : Client) (h : Hdr) (now : Nat) (p : Hdr) (hp : parentOf c h = some p) :
    accepts c h now =
      ((decide (h.extraLen ≤ Facts.gethMaximumExtraDataSize) && decide (h.gasLimit ≤ 2^63 - 1) && decide (h.gasUsed ≤ h.gasLimit) &&
        h.wellFormed && (h.number == 0 || h.difficulty != 0)) &&
       (c.idx (h.hash, h.number)).isNone &&
       (decide (h.time ≤ now + Facts.ethAllowedFutureSecs) && decide (h.time > p.time) &&
        gasLimitOk p h && (h.baseFee == calcBaseFee p) && (h.difficulty == calcDifficulty h.time p) && h.sealOk)) := by
  unfold accepts
  rw [hp]
  rfl

theorem minimum_difficulty (t : Nat) (p : Hdr) : calcDifficulty t p ≥ Facts.gethMinimumDifficulty :=
  calcDifficulty_ge t p

theorem difficulty_divisor : Facts.gethDifficultyBoundDivisor = 2048 := rfl

end Tibc.Expect.Eth
