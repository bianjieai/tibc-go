import Tibc.Generated.Facts
import Tibc.LC.Bsc
/- What the BSC client model assumes about the constants of the current source. -/
namespace Tibc.Expect.Bsc
open BSC

theorem gas_divisor : gasLimitBoundDivisor = Facts.bscGasLimitBoundDivisor := rfl
theorem min_gas : minGasLimit = Facts.gethMinGasLimit := rfl

theorem difficulty_by_turn (c : Client) (h : Hdr) (s : BSC.Addr) (hs : h.signer = some s) :
    BSC.sealOk c h =
      ((s == h.coinbase) && (vset c.validators).contains s && !recentlySigned c h.number s &&
       (if inturn c s then h.difficulty == Facts.bscDiffInTurn else h.difficulty == Facts.bscDiffNoTurn)) := by
  unfold BSC.sealOk; rw [hs]; rfl

/-- the descriptor of a header's extra-data used by the stream: 32 bytes vanity, 65 bytes seal, 20-byte addresses -/
theorem extra_layout : Facts.bscExtraVanity = 32 ∧ Facts.bscExtraSeal = 65 ∧ Facts.bscAddressLength = 20 := ⟨rfl, rfl, rfl⟩

theorem signers_bytes (h : Hdr) : signersBytes h = Facts.bscAddressLength * h.extraVals.length + h.extraRem := rfl

end Tibc.Expect.Bsc
