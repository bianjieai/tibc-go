import Tibc.Lemmas.World
/-
  C09 — Sends get gap-free sequences and one binding commitment, all-or-nothing.
-/
namespace Tibc.C09
open Core

variable (H : Data → Digest) (Hc : Str → Str)

/-- the sequences of the packets accepted by `SendPacket` for one (source, destination) pair,
    in the order they were sent -/
def sentSeqs (s : Core) (pr : Pair) : List Nat :=
  (s.sent.filter (fun x => x.1.pair == pr)).map (fun x => x.1.seq)

/-- the invariant: the sequences handed out so far are exactly `1, 2, …, nextSend-1`, in order -/
def SeqInv (s : Core) : Prop :=
  ∀ pr, 1 ≤ s.ps.nextSend pr ∧ sentSeqs s pr = List.range' 1 (s.ps.nextSend pr - 1)

/-- Exact effect of a successful send: the next sequence number of that pair is consumed, exactly
    one commitment `H data` appears under `(src, dst, seq)`, one `send_packet` event announces the
    packet; receipts, acknowledgements, clean points, other commitments, other counters, clients
    and rules are untouched. A failing send changes nothing. -/
theorem send_commit_exact (s : Core) (p : Packet) :
    (SendOk s p ∧ (sendPacket H s p).2 = .ok ∧
      let t := (sendPacket H s p).1
      p.seq = s.ps.nextSend p.pair ∧
      t.ps.nextSend = upd s.ps.nextSend p.pair (p.seq + 1) ∧
      t.ps.commit = upd s.ps.commit p.key (some (H p.data)) ∧
      t.ps.receipt = s.ps.receipt ∧ t.ps.ack = s.ps.ack ∧ t.ps.clean = s.ps.clean ∧
      t.ps.maxAck = s.ps.maxAck ∧ t.clients = s.clients ∧ t.rules = s.rules ∧
      t.evlog = s.evlog ++ [pktEvent "send_packet" p]) ∨
    (¬ SendOk s p ∧ (∃ e, (sendPacket H s p).2 = .err e) ∧ (sendPacket H s p).1 = s) := by
  rcases sendPacket_cases H s p with ⟨hok, e⟩ | ⟨hno, e', e⟩
  · left
    rw [e]
    refine ⟨hok, rfl, hok.seq, ?_, rfl, rfl, rfl, rfl, rfl, rfl, rfl, rfl⟩
    show upd s.ps.nextSend p.pair (s.ps.nextSend p.pair + 1) = _
    rw [hok.seq]
  · right; rw [e]; exact ⟨hno, ⟨e', rfl⟩, rfl⟩

/-- every accepted primitive preserves the sequence invariant: only a send touches the counter and
    the log of sent packets -/
theorem seqInv_accepted (s t : Core) (ha : Accepted H s t) (hi : SeqInv s) : SeqInv t := by
  cases ha with
  | send p hok =>
    intro pr
    obtain ⟨h1, h2⟩ := hi pr
    show _ ∧ ((s.sent ++ [(p.key, p.data)]).filter _).map _ = _
    unfold sentSeqs at h2
    rw [show (sendWrites H s p).ps.nextSend = upd s.ps.nextSend p.pair (s.ps.nextSend p.pair + 1) from rfl,
      List.filter_append, List.map_append, h2]
    by_cases hp : pr = p.pair
    · subst hp
      have hkp : ((p.key).pair == p.pair) = true := by simp [Packet.key, Packet.pair, PKey.pair]
      simp only [upd_same, List.filter_cons, hkp, if_true, List.filter_nil, List.map_cons]
      refine ⟨by omega, ?_⟩
      have hseq : (p.key).seq = s.ps.nextSend p.pair := hok.seq
      have : s.ps.nextSend p.pair + 1 - 1 = (s.ps.nextSend p.pair - 1) + 1 := by omega
      rw [this, List.range'_concat]
      congr 2
      omega
    · have hkp : ((p.key).pair == pr) = false := by
        simp; exact fun h => hp h.symm
      simp only [upd_apply, hp, if_false, List.filter_cons, hkp, Bool.false_eq_true, List.filter_nil,
        List.map_nil, List.append_nil]
      exact ⟨h1, trivial⟩
  | recv p π h => rw [recvWrites_eq]; exact hi
  | writeAck p a => exact hi
  | ack p a π h => rw [ackWrites_eq]; exact hi
  | clean cp => exact hi
  | recvClean cp π h => rw [recvCleanWrites_eq]; exact hi

theorem seqInv_prims {s t : Core} (h : Prims H s t) : SeqInv s → SeqInv t :=
  Prims.lift H (R := fun s t => SeqInv s → SeqInv t) (fun _ => id) (seqInv_accepted H) (fun _ _ r1 r2 => r2 ∘ r1) h

/-- **Gap-free, no reuse.** For every history of operations (successful and failing sends from
    applications and users, interleaved with inbound traffic, cleans, governance), on every chain
    and for every (source, destination): the sequences handed out so far are exactly
    `1, 2, …, nextSend − 1`, in order. -/
theorem send_seq_invariant (ops : List Op) (c : Chain) : SeqInv ((run H Hc World.init ops) c).core := by
  refine run_inv H Hc (P := fun _ s => SeqInv s.core) (fun w op t hl hi => ?_)
    (fun q pr => by simp [World.init, State.init, Core.init, PStore.empty, sentSeqs]) ops c
  cases hl with
  | tx hd => exact seqInv_prims H (hd.prims H Hc) hi
  | _ => exact hi

/-- A failing NFT / MT transfer message (unknown class or token, not the owner, destination =
    this chain, unknown destination or relay client, missing trace, …) leaves the whole chain
    state unchanged: no token locked or burnt, no sequence consumed. -/
theorem transfer_fail_unchanged (s : State) (m : Msg) (e : Err) (h : (deliver H Hc s m).2 = .err e) :
    (deliver H Hc s m).1 = s :=
  deliver_err_unchanged H Hc s m e h

/-- Re-committing a packet on a relay chain does not touch any send sequence. -/
theorem relay_recommit_keeps_sequences (s : Core) (p : Packet) :
    (recvWrites H s p).1.ps.nextSend = s.ps.nextSend := by
  rw [recvWrites_eq]

end Tibc.C09
