import Tibc.Lemmas.EthPrune
/-
  C18 — ETH client accepts only valid children of known headers, keeps one chain.
-/
namespace Tibc.C18
open Tibc.ETH

def Structural (h : Hdr) : Prop :=
  h.extraLen ≤ 32 ∧ h.gasLimit ≤ 2^63 - 1 ∧ h.gasUsed ≤ h.gasLimit ∧ h.wellFormed = true ∧
  (h.number = 0 ∨ h.difficulty ≠ 0)

/-- **Accept iff the rule holds.** The header-validity check of the ETH client passes exactly
    when: the header is not one the client already has; its parent (the header stored under the
    parent hash one height below) is stored; its timestamp is later than the parent's and not more
    than 15 seconds ahead of chain time; its gas limit stays within parent/1024 of the parent's and
    is at least 5000; its base fee is the EIP-1559 value computed from the parent; its difficulty is
    the prescribed value; its proof-of-work seal is valid; and the stateless checks pass. -/
theorem eth_accepts_iff (c : Client) (h : Hdr) (now : Nat) :
    accepts c h now = true ↔
      Structural h ∧ c.idx (h.hash, h.number) = none ∧
      ∃ p, h.number ≠ 0 ∧ c.idx (h.parent, h.number - 1) = some p ∧
        h.time ≤ now + 15 ∧ p.time < h.time ∧
        absDiff p.gasLimit h.gasLimit < p.gasLimit / 1024 ∧ 5000 ≤ h.gasLimit ∧
        h.baseFee = calcBaseFee p ∧ h.difficulty = calcDifficulty h.time p ∧ h.sealOk = true := by
  unfold accepts validateBasic Structural
  cases hp : parentOf c h with
  | none =>
    simp only [Bool.and_false, Bool.false_eq_true, false_iff]
    rintro ⟨_, _, p, h0, hp', _⟩
    cases hp.symm.trans (parentOf_eq_some.mpr ⟨h0, hp'⟩)
  | some p =>
    obtain ⟨h0, hp'⟩ := parentOf_eq_some.mp hp
    simp only [beq_iff_eq, h0, hp', gasLimitOk, Bool.and_eq_true, Bool.or_eq_true, decide_eq_true_eq, bne_iff_ne,
      Option.isNone_iff_eq_none, Option.some.injEq, exists_eq_left', ne_eq, not_false_eq_true, true_and,
      and_assoc]

/-- a refused update returns no state: nothing changes (`Option.none`); in particular a header the
    client already has, or one whose parent it has not stored, is refused -/
theorem eth_known_header_refused (c : Client) (h hd : Hdr) (now : Nat) (hk : c.idx (h.hash, h.number) = some hd) :
    checkHeaderAndUpdate c h now = none := by
  rw [checkHeaderAndUpdate_eq, if_neg]
  rintro ⟨_, ha⟩
  cases ((eth_accepts_iff c h now).mp ha).2.1.symm.trans hk

theorem eth_unknown_parent_refused (c : Client) (h : Hdr) (now : Nat) (hk : c.idx (h.parent, h.number - 1) = none) :
    checkHeaderAndUpdate c h now = none := by
  rw [checkHeaderAndUpdate_eq, if_neg]
  rintro ⟨_, ha⟩
  obtain ⟨_, _, p, _, hp, _⟩ := (eth_accepts_iff c h now).mp ha
  cases hk.symm.trans hp

/-- only headers passing the validity check are ever accepted -/
theorem eth_accepted_valid (c c' : Client) (h : Hdr) (now : Nat) (hok : checkHeaderAndUpdate c h now = some c') :
    accepts c h now = true :=
  (checkHeaderAndUpdate_eq_some.mp hok).1.2

/-- consensus states written by the main-chain rewrite are those of stored headers at that height -/
theorem rewrite_latest (c c' : Client) (l : List Hdr) (n : Nat) (h : rewrite c l n = some c') : c'.latest = c.latest ∧ c'.idx = c.idx :=
  ⟨(rewrite_frame h).2.2, (rewrite_frame h).1⟩

/-- **Effect of acceptance.** The accepted header becomes the latest header, the consensus state
    exposed for its height is its own (time, number, root), and it is stored in the header index. -/
theorem eth_accept_effect (c c' : Client) (h : Hdr) (now : Nat) (hok : checkHeaderAndUpdate c h now = some c') :
    c'.latest = h ∧ c'.cons h.number = some (consOf h) := by
  obtain ⟨c1, _, happ⟩ := Option.bind_eq_some_iff.mp (checkHeaderAndUpdate_eq_some.mp hok).2
  obtain ⟨c3, _, rfl⟩ := Option.map_eq_some_iff.mp happ
  exact ⟨rfl, upd_same ..⟩

theorem baseFee_at_target (p : Hdr) (h : p.gasUsed = p.gasLimit / 2) : calcBaseFee p = p.baseFee := by
  unfold calcBaseFee; simp [h]

theorem baseFee_above_target (p : Hdr) (h : p.gasUsed > p.gasLimit / 2) : calcBaseFee p > p.baseFee := by
  unfold calcBaseFee
  have h1 : ¬ (p.gasUsed = p.gasLimit / 2) := by omega
  simp only [beq_iff_eq, h1, if_false, h, if_true]
  omega

theorem baseFee_below_target (p : Hdr) (h : p.gasUsed < p.gasLimit / 2) : calcBaseFee p ≤ p.baseFee := by
  unfold calcBaseFee
  have h1 : ¬ (p.gasUsed = p.gasLimit / 2) := by omega
  have h2 : ¬ (p.gasUsed > p.gasLimit / 2) := by omega
  simp only [beq_iff_eq, h1, h2]
  exact Nat.sub_le _ _

theorem difficulty_at_least_minimum (t : Nat) (p : Hdr) : calcDifficulty t p ≥ 131072 :=
  calcDifficulty_ge t p

/-- the client as `CreateClient` / `Initialize` leave it: the trusted header indexed, its consensus state exposed -/
def created (g : Hdr) (period : Nat) : Client :=
  { latest := g, period := period, heights := [g.number],
    idx := fun k => if k = (g.hash, g.number) then some g else none,
    rootMain := fun k => if k = (g.root, g.number) then some (g.hash, g.number) else none,
    cons := fun n => if n = g.number then some (consOf g) else none }

theorem created_inv (g : Hdr) (period : Nat) : Inv (created g period) g := by
  have hidx : ∀ k n x, (created g period).idx (k, n) = some x → x = g ∧ k = g.hash ∧ n = g.number := by
    intro k n x hx
    obtain ⟨heq, hx⟩ := Option.ite_some_none_eq_some.mp hx
    exact ⟨hx.symm, Prod.mk.inj heq⟩
  have hk : KeysOk (created g period) := fun k n x hx => by
    obtain ⟨rfl, h2, h3⟩ := hidx k n x hx
    exact ⟨h2.symm, h3.symm⟩
  refine ⟨hk, if_pos rfl, ?_, ?_, ?_, fun a ha => ?_⟩
  · intro k n x hx
    obtain ⟨rfl, _, _⟩ := hidx k n x hx
    exact if_pos rfl
  · intro k n x k' n' y hx hy _
    exact (hidx k n x hx).1.trans (hidx k' n' y hy).1.symm
  · intro k n x hx
    obtain ⟨rfl, _, _⟩ := hidx k n x hx
    exact Anc.refl _
  · -- a proper ancestor would be stored, and only `g` is
    rw [(Anc.eq_or_stored hk ha).elim id fun hs => (hidx _ _ _ hs).1]
    exact if_pos rfl

/-- **One accepted header keeps one chain** (a step in which no consensus state is pruned; the
    header's hash, and its state root among the stored headers of its height, are new — hash
    collision freedom, and see F-C18b for equal roots): the update succeeds, and afterwards the
    consensus states exposed for all heights up to the new latest header are its ancestors'. -/
theorem one_chain_step (c : Client) (b h : Hdr) (now : Nat) (hi : Inv c b)
    (ha : accepts c h now = true) (hf : Fresh c h) (hp : prune c now = some c) :
    ∃ c', checkHeaderAndUpdate c h now = some c' ∧ Inv c' b ∧ c'.latest = h := by
  have hc : (c.cons c.latest.number).isSome = true := by rw [hi.main c.latest (Anc.refl _)]; rfl
  -- with idle pruning `CheckHeaderAndUpdateState` is `applyHeader`
  rw [checkHeaderAndUpdate_eq, if_pos ⟨hc, ha⟩, hp]
  obtain ⟨_, _, p, h0, hpp, _⟩ := (eth_accepts_iff c h now).mp ha
  exact applyHeader_inv hi hf (parentOf_eq_some.mpr ⟨h0, hpp⟩)

/-- submit a list of (header, block time) pairs; refused headers leave the client unchanged -/
def submitAll (c : Client) : List (Hdr × Nat) → Client
  | [] => c
  | (h, now) :: rest => submitAll ((checkHeaderAndUpdate c h now).getD c) rest

/-- along the history no consensus state gets pruned, and every accepted header is fresh -/
def Admissible : Client → List (Hdr × Nat) → Prop
  | _, [] => True
  | c, (h, now) :: rest =>
    prune c now = some c ∧ (accepts c h now = true → Fresh c h) ∧ Admissible ((checkHeaderAndUpdate c h now).getD c) rest

/-- **At all times one chain.** From the client's creation, over every history of submitted
    headers — valid or not, extending the latest header or any stored header, in any order, forks
    of any depth — the consensus states exposed for heights up to the latest header are exactly
    those of that header's ancestors (hence one parent-linked chain ending at it). -/
theorem one_chain (g : Hdr) (period : Nat) (steps : List (Hdr × Nat))
    (hadm : Admissible (created g period) steps) :
    let c := submitAll (created g period) steps
    ∀ a, Anc c c.latest a → c.cons a.number = some (consOf a) := by
  have gen : ∀ (steps : List (Hdr × Nat)) (c : Client), Inv c g → Admissible c steps → Inv (submitAll c steps) g := by
    intro steps
    induction steps with
    | nil => intro c hi _; exact hi
    | cons s rest ih =>
      intro c hi hadm
      obtain ⟨h, now⟩ := s
      apply ih _ _ hadm.2.2
      cases hacc : accepts c h now with
      | true =>
        obtain ⟨c', hc', hi', _⟩ := one_chain_step c g h now hi hacc (hadm.2.1 hacc) hadm.1
        rw [hc']; exact hi'
      | false =>
        rw [checkHeaderAndUpdate_eq, if_neg (fun hc => by rw [hacc] at hc; cases hc.2)]; exact hi
  exact (gen steps _ (created_inv g period) hadm).main

def mk (n : Nat) (hash parent root : String) (time : Nat) : Hdr :=
  { number := n, hash := hash, parent := parent, time := time, root := root, gasLimit := 30000000, gasUsed := 15000000,
    baseFee := 100, difficulty := 131072, uncles := false, extraLen := 0, wellFormed := true, sealOk := true }

def G : Hdr := mk 100 "G" "x" "rG" 1000
def c0 : Client :=
  { latest := G, period := 100000, heights := [100],
    idx := fun k => if k == ("G", 100) then some G else none,
    rootMain := fun k => if k == ("rG", 100) then some ("G", 100) else none,
    cons := fun n => if n == 100 then some (consOf G) else none }

/-- apply updates whose validity is not at stake here (the rewrite logic is) -/
def force (c : Client) (h : Hdr) : Option Client := applyHeader c h

def scenario : Option Client := do
  let c ← force c0 (mk 101 "A1" "G" "rA1" 1001)
  let c ← force c (mk 102 "A2" "A1" "R" 1002)
  let c ← force c (mk 103 "A3" "A2" "rA3" 1003)
  let c ← force c (mk 101 "B1" "G" "rB1" 1011)
  let c ← force c (mk 102 "B2" "B1" "R" 1012)      -- the same state root as A2
  let c ← force c (mk 104 "A4" "A3" "rA4" 1004)
  force c (mk 102 "N2" "B1" "rN2" 1022)

/-- after the scripted history the latest header is N2 (ancestors B1, G) but the consensus state
    exposed for height 101 is A1's: the one-chain clause fails when two stored headers of one
    height share a state root. Replayed on the real client by the eth stream (F-C18b). -/
theorem same_root_breaks_one_chain :
    (scenario.map (fun c => (c.latest.hash, (c.cons 101).map (·.root)))) = some ("N2", some "rA1") := by
  decide +kernel

/-- with distinct roots the same history ends on one chain -/
def scenarioDistinct : Option Client := do
  let c ← force c0 (mk 101 "A1" "G" "rA1" 1001)
  let c ← force c (mk 102 "A2" "A1" "rA2" 1002)
  let c ← force c (mk 103 "A3" "A2" "rA3" 1003)
  let c ← force c (mk 101 "B1" "G" "rB1" 1011)
  let c ← force c (mk 102 "B2" "B1" "rB2" 1012)
  let c ← force c (mk 104 "A4" "A3" "rA4" 1004)
  force c (mk 102 "N2" "B1" "rN2" 1022)

example : (scenarioDistinct.map (fun c => (c.latest.hash, (c.cons 101).map (·.root), (c.cons 102).map (·.root)))) =
    some ("N2", some "rB1", some "rN2") := by decide +kernel

/-- Non-vacuity of the acceptance rule: a valid child of `G` is accepted. -/
def child : Hdr := { mk 101 "A1" "G" "rA1" 1010 with difficulty := calcDifficulty 1010 G, baseFee := calcBaseFee G }
example : (checkHeaderAndUpdate c0 child 1005).isSome = true := by decide +kernel

/-- **Pruning never exposes a foreign consensus state.** When an update of an Active client prunes
    the earliest visible consensus state (older than the trusting period), the entries deleted
    are those of the latest header's ancestor at that height, the latest header stays stored, and
    every consensus state still exposed for an ancestor's height is that ancestor's. (Single
    step: `one_chain` composes steps without pruning; this theorem covers the pruning part of a
    step. The two are not yet composed over whole histories — after a prune the trusted header the
    invariant of `one_chain` is anchored at may be gone.) -/
theorem pruning_keeps_one_chain {c c' : Client} {b : Hdr} {now : Nat} (hi : Inv c b) (hrh : RootHeights c)
    (hact : active c now = true) (hp : prune c now = some c') :
    c'.latest = c.latest ∧ Stored c' c'.latest ∧
    ∀ a, Anc c' c'.latest a → c'.cons a.number = some (consOf a) := by
  rcases prune_cases c now with h | h | ⟨e, k, key, hce, hexp, hrm, h⟩
  · cases h.symm.trans hp; exact ⟨rfl, hi.latest, hi.main⟩
  · cases h.symm.trans hp
  · cases h.symm.trans hp
    -- the latest header is not at the pruned height (its consensus state has not expired)
    have hlat : c.latest.number ≠ e := by
      intro heq
      unfold active at hact
      rw [heq, hce] at hact
      exact Nat.lt_irrefl _ (Nat.lt_of_le_of_lt (of_decide_eq_true hact) hexp)
    have hsub : ∀ q x, (upd c.idx key none) q = some x → c.idx q = some x := fun q x hq =>
      (upd_eq_some hq).elim (fun h => nomatch h.2) And.right
    refine ⟨rfl, ?_, fun a ha => ?_⟩
    · -- a root-index entry for height e points at a header of height e, not at the latest header
      refine (upd_other _ _ _ _ fun heq => hlat ?_).trans hi.latest
      exact (congrArg Prod.snd heq).trans (hrh _ _ _ hrm)
    · have ha0 : Anc c c.latest a := Anc.mono hsub ha
      refine (upd_other _ _ _ _ fun heq => ?_).trans (hi.main a ha0)
      -- a is the ancestor at the pruned height: its index entry is the deleted one
      have hka : some k = some (consOf a) := hce.symm.trans (heq ▸ hi.main a ha0)
      cases hka
      have hkey : some key = some (a.hash, a.number) :=
        hrm.symm.trans (heq ▸ hi.roots _ _ _ (ha0.stored hi.keys hi.latest))
      cases hkey
      rcases Anc.eq_or_stored (fun q n x hq => hi.keys q n x (hsub _ _ hq)) ha with e1 | s
      · exact hlat (e1 ▸ heq)
      · exact absurd ((upd_same ..).symm.trans s) nofun

/-- the hypotheses are met by a freshly created client … -/
theorem created_rootHeights (g : Hdr) (period : Nat) : RootHeights (created g period) := by
  intro r n key hk
  obtain ⟨heq, hk⟩ := Option.ite_some_none_eq_some.mp hk
  rw [← hk]; exact (Prod.mk.inj heq).2.symm

/-- … and pruning really happens in the model: with a trusting period of 10 s, submitting A2 at
    time 1020 deletes the consensus state of the creation height (expired at 1011) -/
def prunedOnce : Option Client := do
  let c ← force c0 (mk 101 "A1" "G" "rA1" 1001)
  prune { c with period := 10 } 1020

example : (prunedOnce.map (fun (c : Client) => ((c.cons 100).isSome, (c.cons 101).isSome))) = some (false, true) := by
  decide +kernel

end Tibc.C18
