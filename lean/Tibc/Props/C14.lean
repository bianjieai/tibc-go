import Tibc.LC.Status
import Tibc.Lemmas.TmCommit
import Tibc.Lemmas.Msg
/-
  C14 — Expired light clients are frozen out, for every client type.
-/
namespace Tibc.C14
open Core

variable (H : Data → Digest)

/-- Tendermint (nanoseconds): Expired iff the newest trusted state is at least one trusting
    period old; Active strictly inside the period; Unknown iff that state is missing. -/
theorem tm_status_iff (t : Option Nat) (period now : Nat) :
    (LCStatus.tm t period now = .expired ↔ ∃ t0, t = some t0 ∧ t0 + period ≤ now) ∧
    (LCStatus.tm t period now = .active ↔ ∃ t0, t = some t0 ∧ now < t0 + period) ∧
    (LCStatus.tm t period now = .unknown ↔ t = none) := by
  unfold LCStatus.tm
  cases t with
  | none => simp
  | some t0 =>
    by_cases h : t0 + period ≤ now
    · simp [h]
    · simp [h]; omega

/-- the BSC / ETH rule is the Tendermint rule in whole seconds with the boundary moved by one:
    `t + period < now` is `t + (period + 1) ≤ now` -/
theorem eth_eq_tm (ts : Option Nat) (period nowNs : Nat) :
    LCStatus.eth ts period nowNs = LCStatus.tm ts (period + 1) (nowNs / 1000000000) := rfl

/-- BSC and ETH (seconds; the block time's sub-second part is irrelevant): Expired iff the newest
    trusted state's timestamp plus the trusting period lies strictly before the block time in whole
    seconds. -/
theorem eth_status_iff (ts : Option Nat) (period nowNs : Nat) :
    (LCStatus.eth ts period nowNs = .expired ↔ ∃ t0, ts = some t0 ∧ t0 + period < nowNs / 1000000000) ∧
    (LCStatus.eth ts period nowNs = .active ↔ ∃ t0, ts = some t0 ∧ nowNs / 1000000000 ≤ t0 + period) ∧
    (LCStatus.eth ts period nowNs = .unknown ↔ ts = none) := by
  simpa only [eth_eq_tm, ← Nat.add_assoc, Nat.lt_succ_iff, Nat.succ_le_iff] using
    tm_status_iff ts (period + 1) (nowNs / 1000000000)

/-- the sub-second part of the block time never matters for BSC / ETH -/
theorem eth_status_subsecond (ts : Option Nat) (period sec ns1 ns2 : Nat) (h1 : ns1 < 1000000000) (h2 : ns2 < 1000000000) :
    LCStatus.eth ts period (sec * 1000000000 + ns1) = LCStatus.eth ts period (sec * 1000000000 + ns2) := by
  have e : ∀ ns, ns < 1000000000 → (sec * 1000000000 + ns) / 1000000000 = sec := fun ns h => by
    rw [Nat.mul_comm, Nat.mul_add_div (by decide), Nat.div_eq_of_lt h]; rfl
  unfold LCStatus.eth
  rw [e ns1 h1, e ns2 h2]

/-- The model's `Client.active` is the Tendermint rule. -/
theorem client_active_iff (cl : Client) (now : Nat) :
    cl.active now = true ↔ (cl.cons cl.latest).isSome = true ∧ now < cl.consTime cl.latest + cl.period := by
  unfold Client.active
  simp

/-- **Packets, acknowledgements and clean requests require an Active client**: whenever one of
    the three keeper functions changes the state or succeeds, the proving client was Active at the
    current block time. -/
theorem packets_require_active (s : Core) (p : Packet) (a : Data) (cp : CleanPacket) (π : Proof) (h : Nat) :
    ((recvPacket H s p π h).2 = .ok ∨ (recvPacket H s p π h).1 ≠ s →
        ∃ cl, s.clients (recvProver s p) = some cl ∧ cl.active s.now = true) ∧
    ((acknowledgePacket H s p a π h).2 = .ok ∨ (acknowledgePacket H s p a π h).1 ≠ s →
        ∃ cl, s.clients (ackProver s p) = some cl ∧ cl.active s.now = true) ∧
    ((recvCleanPacket s cp π h).2 = .ok ∨ (recvCleanPacket s cp π h).1 ≠ s →
        ∃ cl, s.clients (cleanProver s cp) = some cl ∧ cl.active s.now = true) := by
  refine ⟨fun hch => ?_, fun hch => ?_, fun hch => ?_⟩
  · rcases recvPacket_cases H s p π h with ⟨⟨_, _, cl, _, hcl, ha, _⟩, _⟩ | ⟨_, e, _, he⟩
    · exact ⟨cl, hcl, ha⟩
    · exact (refused_no_effect he hch.symm).elim
  · rcases acknowledgePacket_cases H s p a π h with ⟨⟨_, _, cl, _, hcl, ha, _⟩, _⟩ | ⟨_, e, he⟩
    · exact ⟨cl, hcl, ha⟩
    · exact (refused_no_effect he hch.symm).elim
  · rcases recvCleanPacket_cases s cp π h with ⟨⟨_, cl, _, hcl, ha, _⟩, _⟩ | ⟨_, e, he⟩
    · exact ⟨cl, hcl, ha⟩
    · exact (refused_no_effect he hch.symm).elim

/-- A client that is not Active refuses header updates (Tendermint; BSC and ETH go through the
    same `Keeper.UpdateClient` gate, modelled in `updateClientMsg`). -/
theorem update_requires_active (Hv : List TM.Val → Digest) (cl : TM.Client) (hdr : TM.Header) (now : Nat)
    (hna : TM.status cl now ≠ .active) : TM.updateClient Hv cl hdr now = .error .notActive :=
  TM.updateClient_of_not_active Hv hdr hna

end Tibc.C14
