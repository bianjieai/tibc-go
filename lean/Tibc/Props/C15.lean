import Tibc.Lemmas.World
/-
  C15 — Privileged operations need the right authority and never clobber clients.
-/
namespace Tibc.C15

/-- Creating a client takes effect only when requested by the governance authority. -/
theorem create_requires_authority (s : State) (auth : Addr) (q : Chain) (ct : String) (h t pd : Nat) (v cs : Bool)
    (sn : Snapshot) (hch : (createClientMsg s auth q ct h t pd v cs sn).1 ≠ s ∨ (createClientMsg s auth q ct h t pd v cs sn).2 = .ok) :
    auth = s.core.authority ∧ s.core.clients q = none := by
  rcases createClientMsg_cases s auth q ct h t pd v cs sn with ⟨⟨ha, hn⟩, _⟩ | ⟨_, e⟩
  · exact ⟨ha.symm, hn⟩
  · exact (Core.refused_no_effect e hch).elim

/-- Creating a client never overwrites an existing one. -/
theorem create_never_overwrites (s : State) (auth : Addr) (q : Chain) (ct : String) (h t pd : Nat) (v cs : Bool)
    (sn : Snapshot) (cl : Client) (hex : s.core.clients q = some cl) :
    (createClientMsg s auth q ct h t pd v cs sn).1 = s ∧ (createClientMsg s auth q ct h t pd v cs sn).2 ≠ .ok := by
  rcases createClientMsg_cases s auth q ct h t pd v cs sn with ⟨⟨_, hn⟩, _⟩ | ⟨_, e⟩
  · rw [hn] at hex; cases hex
  · rw [e]; exact ⟨rfl, fun h => by cases h⟩

/-- Upgrading takes effect only for the authority, only for an existing client, and only with a
    client state of the same type. -/
theorem upgrade_requires_authority_and_type (s : State) (auth : Addr) (q : Chain) (ct : String) (h t pd : Nat)
    (v cs : Bool) (sn : Snapshot)
    (hch : (upgradeClientMsg s auth q ct h t pd v cs sn).1 ≠ s ∨ (upgradeClientMsg s auth q ct h t pd v cs sn).2 = .ok) :
    auth = s.core.authority ∧ ∃ cl, s.core.clients q = some cl ∧ cl.ctype = ct := by
  rcases upgradeClientMsg_cases s auth q ct h t pd v cs sn with ⟨cl, ⟨ha, hcl, hty⟩, _⟩ | ⟨_, e⟩
  · exact ⟨ha.symm, cl, hcl, hty⟩
  · exact (Core.refused_no_effect e hch).elim

/-- Registering relayers and changing routing rules take effect only for the authority. -/
theorem register_requires_authority (s : State) (auth : Addr) (q : Chain) (rs : List Addr)
    (hch : (registerRelayerMsg s auth q rs).1 ≠ s ∨ (registerRelayerMsg s auth q rs).2 = .ok) :
    auth = s.core.authority := by
  rcases registerRelayerMsg_cases s auth q rs with ⟨ha, _⟩ | ⟨_, e⟩
  · exact ha.symm
  · exact (Core.refused_no_effect e hch).elim

theorem set_rules_requires_authority (s : State) (auth : Addr) (rules : List Str)
    (hch : (setRulesMsg s auth rules).1 ≠ s ∨ (setRulesMsg s auth rules).2 = .ok) :
    auth = s.core.authority := by
  rcases setRulesMsg_cases s auth rules with ⟨ha, _⟩ | ⟨_, e⟩
  · exact ha.symm
  · exact (Core.refused_no_effect e hch).elim

/-- Header updates take effect only when sent by a relayer registered for that chain (and only
    for an existing, Active client). -/
theorem update_requires_registered_relayer (s : State) (signer : Addr) (q : Chain) (h t : Nat) (ok : Bool)
    (sn : Snapshot)
    (hch : (updateClientMsg s signer q h t ok sn).1 ≠ s ∨ (updateClientMsg s signer q h t ok sn).2 = .ok) :
    signer ∈ s.core.relayers q ∧ ∃ cl, s.core.clients q = some cl ∧ cl.active s.core.now = true := by
  rcases updateClientMsg_cases s signer q h t ok sn with ⟨cl, ⟨hs, hcl, hact⟩, _⟩ | ⟨_, e⟩
  · exact ⟨hs, cl, hcl, hact⟩
  · exact (Core.refused_no_effect e hch).elim

/-- A refused request changes nothing (every one of the five handlers). -/
theorem refused_unchanged (s : State) (auth : Addr) (q : Chain) (ct : String) (h t pd : Nat) (v cs : Bool)
    (sn : Snapshot) (rs : List Addr) (rules : List Str) (ok : Bool) (e : Err) :
    ((createClientMsg s auth q ct h t pd v cs sn).2 = .err e → (createClientMsg s auth q ct h t pd v cs sn).1 = s) ∧
    ((upgradeClientMsg s auth q ct h t pd v cs sn).2 = .err e → (upgradeClientMsg s auth q ct h t pd v cs sn).1 = s) ∧
    ((registerRelayerMsg s auth q rs).2 = .err e → (registerRelayerMsg s auth q rs).1 = s) ∧
    ((setRulesMsg s auth rules).2 = .err e → (setRulesMsg s auth rules).1 = s) ∧
    ((updateClientMsg s auth q h t ok sn).2 = .err e → (updateClientMsg s auth q h t ok sn).1 = s) := by
  -- each handler answers `.ok`, or an error with the state it was given
  have key : ∀ {r : State × Res}, (r.2 = .ok ∨ ∃ e', r = (s, .err e')) → r.2 = .err e → r.1 = s := by
    rintro r (hx | ⟨_, rfl⟩) he
    · rw [hx] at he; cases he
    · rfl
  refine ⟨key ?_, key ?_, key ?_, key ?_, key ?_⟩
  · exact (createClientMsg_cases s auth q ct h t pd v cs sn).imp (fun ⟨_, e⟩ => congrArg Prod.snd e) id
  · exact (upgradeClientMsg_cases s auth q ct h t pd v cs sn).imp (fun ⟨_, _, e⟩ => congrArg Prod.snd e) id
  · exact (registerRelayerMsg_cases s auth q rs).imp (fun ⟨_, e⟩ => congrArg Prod.snd e) id
  · exact (setRulesMsg_cases s auth rules).imp (fun ⟨_, e⟩ => congrArg Prod.snd e) id
  · exact (updateClientMsg_cases s auth q h t ok sn).imp (fun ⟨_, _, e⟩ => congrArg Prod.snd e) id

/-- the type of the client registered under a chain name, if any -/
def ctypeOf (s : State) (q : Chain) : Option String := (s.core.clients q).map (·.ctype)

/-- every operation a user, relayer or the governance authority can submit (the raw keeper-level
    `createClient` used by test set-ups is not one of them) -/
def Op.userReachable : Op → Prop
  | .createClient _ _ _ _ _ => False
  | _ => True

/-- **Upgrading never changes a client's type**: over every history of user-reachable operations,
    once a client of some type exists under a chain name, the type registered under that name
    never changes. -/
theorem type_preserved (H : Data → Digest) (Hc : Str → Str) (w : World) (ops : List Op)
    (hreach : ∀ op ∈ ops, Op.userReachable op) (c q : Chain) (ct : String)
    (h0 : ctypeOf (w c) q = some ct) : ctypeOf ((run H Hc w ops) c) q = some ct := by
  refine run_inv_on H Hc (P := fun x s => x = c → ctypeOf s q = some ct) (fun w op t hr hl hi e => ?_)
    (fun x e => e ▸ h0) hreach c rfl
  replace hi := hi e
  -- writing a client under another name leaves the one under `q` alone
  have other : ∀ {q'} (cl : Client), q' ≠ q → ctypeOf (setClient (w op.chain) q' cl) q = some ct := fun cl hq => by
    show Option.map _ (upd _ _ _ q) = _
    rw [upd_other _ _ _ _ (Ne.symm hq)]; exact hi
  cases hl with
  | tx hd => unfold ctypeOf; rw [(hd.mono H Hc).clients]; exact hi
  | create q' cl _ hnew =>
    refine other cl fun e' => ?_
    rcases hnew with hn | ⟨_, _, _, hop⟩
    · rw [ctypeOf, ← e', hn] at hi; cases hi
    · rw [hop] at hr; exact hr
  | modify q' cl0 cl hcl0 hty =>
    by_cases e' : q' = q
    · show Option.map _ (upd _ _ _ q) = _
      rw [e', upd_same, Option.map_some, hty]
      rw [ctypeOf, ← e', hcl0] at hi; exact hi
    · exact other cl e'
  | _ => exact hi

end Tibc.C15
