import Tibc.Lemmas.Log
/-
  C11 — Relay chains forward faithfully, enforce the whitelist, run no app logic.
-/
namespace Tibc.C11
open Core

variable (H : Data → Digest) (Hc : Str → Str)

/-- On the relay chain an authentic packet (all `RecvPacket` checks passed) is re-committed iff
    the routing rules allow `(source, destination, port)` and the destination is known; then the
    commitment is the same digest under the same key and a `send_packet` event announces it. -/
theorem relay_forward_iff (s : Core) (p : Packet) (hrelay : p.relay = s.name) :
    ((recvWrites H s p).2 = .ok ↔
      (authenticate s p.src p.dst p.port = true ∧ (s.clients p.dst).isSome = true)) ∧
    ((recvWrites H s p).2 = .ok →
      (recvWrites H s p).1.ps.commit = upd s.ps.commit p.key (some (H p.data)) ∧
      (recvWrites H s p).1.evlog = s.evlog ++ [pktEvent "recv_packet" p, pktEvent "send_packet" p]) := by
  have hr : (p.relay == s.name) = true := by rw [hrelay]; exact beq_self_eq_true _
  have hf : forwards s p = true ↔ authenticate s p.src p.dst p.port = true ∧ (s.clients p.dst).isSome = true :=
    (forwards_iff s p).trans ⟨(·.2), fun h => ⟨hrelay, h⟩⟩
  rw [recvWrites_eq]
  cases hfw : forwards s p <;>
    simp only [hr, Bool.true_and, Bool.not_true, Bool.false_eq_true, if_false, if_true]
  · exact ⟨⟨Res.noConfusion, fun h => absurd (hf.mpr h) (by rw [hfw]; exact Bool.false_ne_true)⟩, Res.noConfusion⟩
  · exact ⟨⟨fun _ => hf.mp hfw, fun _ => trivial⟩, fun _ => ⟨trivial, trivial⟩⟩

/-- Otherwise the relay records the receipt and answers with an error acknowledgement; no
    commitment is written, so (by C01) the destination can never accept the packet. -/
theorem relay_reject_error_ack (s : State) (p : Packet) (π : Proof) (h : Nat) (t : String)
    (hok : RecvOk H s.core p π h) (hrelay : p.relay = s.core.name)
    (hno : ¬ (authenticate s.core p.src p.dst p.port = true ∧ (s.core.clients p.dst).isSome = true)) :
    let s1 := (s.core.setReceipt p.key).emit (pktEvent "recv_packet" p)
    (msgRecvPacket H Hc s p π h t).1.core = (s1.writeAck H p (.ackErr "756e617574686f72697a6564")).1 ∧
    (msgRecvPacket H Hc s p π h t).1.core.ps.commit = s.core.ps.commit ∧
    (msgRecvPacket H Hc s p π h t).1.apps = s.apps ∧ (msgRecvPacket H Hc s p π h t).1.cbLog = s.cbLog := by
  intro s1
  have hf : s.core.forwards p = false := Bool.eq_false_iff.mpr fun hfw => hno ((forwards_iff s.core p).mp hfw).2
  have hrw : s.core.recvPacket H p π h = (s1, .err .unauthorized) := by
    rw [recvPacket_of_ok H hok, recvWrites_eq, hf, hrelay, beq_self_eq_true]; rfl
  unfold msgRecvPacket
  rw [hrw]
  refine ⟨rfl, ?_, rfl, rfl⟩
  rcases writeAck_cases H s1 p (.ackErr "756e617574686f72697a6564") with ⟨_, e⟩ | ⟨_, _, e⟩ <;> simp only [e] <;> rfl

/-- Acknowledgements pass back through the relay chain unchanged: the digest the relay stores for
    the source to verify is the digest it verified in the destination's recorded state. -/
theorem relay_ack_passthrough (s : Core) (p : Packet) (a : Data) (π : Proof) (h : Nat)
    (hok : AckOk H s p a π h) (hrelay : p.relay = s.name) (hsrc : (s.clients p.src).isSome = true) :
    (acknowledgePacket H s p a π h).2 = .ok ∧
    (acknowledgePacket H s p a π h).1.ps.ack p.key = some (H a) ∧
    ∃ cl sn, s.clients (ackProver s p) = some cl ∧ cl.cons h = some sn ∧ sn.ack p.key = some (H a) := by
  have hp : passesAck s p = true := (passesAck_iff s p).mpr ⟨hrelay, hsrc⟩
  rw [acknowledgePacket_of_ok H hok, ackWrites_eq, hp]
  obtain ⟨cl, sn, hcl, hsn, hack⟩ := hok.shown
  exact ⟨by simp only [Bool.not_true, Bool.and_false, Bool.false_eq_true, if_false], upd_same .., cl, sn, hcl, hsn, hack⟩

/-- The relay chain never runs application logic for traffic passing through: a receive whose
    destination is another chain, and an acknowledgement whose source is another chain, leave
    the application state and the callback log untouched. -/
theorem relay_no_callbacks (s : State) (p : Packet) (π : Proof) (h : Nat) (t : String) (a : Data) :
    (p.dst ≠ s.core.name →
      (msgRecvPacket H Hc s p π h t).1.apps = s.apps ∧ (msgRecvPacket H Hc s p π h t).1.cbLog = s.cbLog) ∧
    (p.src ≠ s.core.name →
      (msgAcknowledgement H Hc s p a π h).1.apps = s.apps ∧ (msgAcknowledgement H Hc s p a π h).1.cbLog = s.cbLog) := by
  constructor
  · intro hd
    unfold msgRecvPacket
    split
    · exact ⟨rfl, rfl⟩
    · exact ⟨rfl, rfl⟩
    · rename_i c heq
      have hname : c.name = s.core.name := by
        have hm := (Prim.recv s.core p π h).mono H
        rw [heq] at hm; exact hm.name
      have : (p.dst == c.name) = false := by rw [hname]; simpa using hd
      simp [this]
  · intro hsrc
    unfold msgAcknowledgement
    have : (p.src == s.core.name) = false := by simpa using hsrc
    simp only [this, Bool.false_and, Bool.false_eq_true, if_false]
    split <;> exact ⟨rfl, rfl⟩

end Tibc.C11
