import Tibc.Lemmas.NftSteps
import Tibc.Lemmas.RelayEdit
/-
  C06 — Failed transfers are refunded exactly; a round trip restores the original.
  (Path algebra for all strings; refund exactness per step.)
-/
namespace Tibc.C06
open ClassPath

/-- a base class as the (repaired) send path admits it: free of the path delimiter -/
def WfBase (b : Str) : Prop := delim ∉ b

/-- a voucher class path: `pfx/c₁/…/cₙ/base`, n ≥ 2, no component contains the delimiter -/
def WfPath (pfx : Str) (q : Str) : Prop :=
  ∃ parts : List Str, q = joinWith delim parts ∧ 4 ≤ parts.length ∧ parts.head? = some pfx ∧
    ∀ x ∈ parts, delim ∉ x

/-- **One hop out and back restores a base class**, for every base class, source and destination
    chain name that are free of `/` (class-path prefix `nft` or `mt`). -/
theorem back_away_base (pfx s d b : Str) (hp : delim ∉ pfx) (hs : delim ∉ s) (hd : delim ∉ d) (hb : WfBase b) :
    getBack (getAway pfx s d b) = some b := by
  rw [getAway_base pfx s d b hb]
  exact getBack_of_split (init := [pfx, s]) (split_join4 hp hs hd hb)

/-- **One further hop out and back restores a voucher class path**, for every well-formed path
    of any length. -/
theorem back_away_path (pfx s d q : Str) (hd : delim ∉ d) (hq : WfPath pfx q)
    (hpre : hasPrefix pfx q = true) :
    getBack (getAway pfx s d q) = some q := by
  obtain ⟨parts, rfl, hlen, _, hfree⟩ := hq
  exact getBack_getAway_join pfx s d parts (by omega) (by omega) hfree hd hpre

/-- The refund recomputes the sender's local class from the packet's full class path:
    parsing a class path into (path, base class) loses nothing. -/
theorem parse_full (q : Str) (h : ∀ b, q ≠ delim :: b ∨ delim ∈ b) : fullPath (parseTrace q) = q := by
  obtain ⟨init, l, hs, hq, hfree⟩ := exists_fields delim q
  by_cases hne : init = []
  · rw [hne] at hs
    rw [parseTrace_single hs]; rfl
  · rw [joinWith_snoc _ _ _ hne] at hq
    rw [parseTrace_of_split hs hne]
    show (if joinWith delim init = [] then l else joinWith delim init ++ delim :: l) = q
    by_cases he : joinWith delim init = []
    · -- `q = '/' :: l`, where the field `l` is free of the delimiter
      rw [he] at hq
      rcases h l with h1 | h1
      · exact absurd hq.symm h1
      · exact absurd h1 (hfree l (List.mem_append_right _ (List.mem_singleton_self l)))
    · rw [if_neg he, hq]


variable (Hc : Str → Str)

/-- the local class a packet's full class path stands for on the sending chain is the class the
    token was taken from: holds for native classes (no `/`, repaired send path) and for voucher
    classes whose trace entry is consistent (`tibc-<hash>` ↦ path with that hash) -/
def ClassConsistent (cls full : Str) : Prop := ibcClass Hc full = cls

theorem native_class_consistent (cls : Str) (h : WfBase cls) : ClassConsistent Hc cls cls := by
  unfold ClassConsistent ibcClass
  rw [parseTrace_single (split_nosep delim cls h)]; rfl

/-- **Refund is exact (NFT).** If `SendNftTransfer` took the token (locked it in the module's
    escrow when moving away from its origin, burned it when moving back) and the transfer is later
    refunded (error acknowledgement), the NFT module of the sending chain is exactly what it was
    before the send: same owner of every token, same URIs, same classes. -/
theorem nft_refund_exact (a a1 : Apps) (cls id full : Str) (sender receiver : Addr) (away : Bool) (dc : String)
    (hcons : ClassConsistent Hc cls full) (hsv : addrValid sender = true)
    (hdenom : (a.nft.denom cls).isSome = true)
    (htok : nftSendToken a cls id sender away = (a1, .ok)) :
    let d : NftData := { cls := full, id := id, uri := a.nft.uri (cls, id), sender := sender, receiver := receiver,
                         away := away, destContract := dc }
    (nftRefund Hc a1 d).2 = .ok ∧ (nftRefund Hc a1 d).1.nft = a.nft := by
  have hvc : ibcClass Hc full = cls := hcons
  rcases nftSendToken_cases a cls id sender away with ⟨ho, _, e⟩ | ⟨e', e⟩
  · rw [e] at htok; cases htok
    cases away with
    | true =>
      -- locked: owner was `sender`, now the module account
      simp only [nftRefund, hsv, hvc, Bool.not_true, Bool.false_eq_true, if_false, if_true,
        NftMod.transferOwner_eq, upd_same, hdenom, liftNft_ok, upd_upd]
      rw [← ho, upd_self]; exact ⟨trivial, rfl⟩
    | false =>
      -- burned: re-minted to the module account with the same URI, then handed back
      simp only [nftRefund, hsv, hvc, Bool.not_true, Bool.false_eq_true, if_false,
        NftMod.mint_eq, NftMod.transferOwner_eq, upd_same, hdenom, liftNft_ok, upd_upd]
      rw [← ho, upd_self, upd_self]; exact ⟨trivial, rfl⟩
  · rw [e] at htok; cases htok


/-- **A round trip restores the original (NFT).** A native token `(cls, id)` of chain `a` is sent to
    chain `b` and the voucher is sent straight back. On the origin chain the ownership map ends up
    exactly as it started, with the token owned by the final receiver (escrow released); on chain
    `b` the ownership map ends up exactly as it started (the voucher was minted and burned). -/
theorem nft_round_trip_restores (A B : Apps) (a b : Str) (cls id : Str) (u v u2 : Addr)
    (p1 : Packet) (d1 d2 : NftData)
    (ha : delim ∉ a) (hb : delim ∉ b) (hcls : WfBase cls)
    (hp1 : p1.src.toList = a ∧ p1.dst.toList = b)
    (hd1 : d1.cls = cls ∧ d1.id = id ∧ d1.receiver = v)
    (hd2 : d2.cls = getAway nftPfx a b cls ∧ d2.id = id ∧ d2.receiver = u2)
    -- the four steps were accepted
    (h1 : (nftSendToken A cls id u true).2 = .ok)
    (h2 : (nftRecvAway Hc B p1 d1).2 = .ok)
    (h3 : (nftSendToken (nftRecvAway Hc B p1 d1).1 (ibcClass Hc (getAway nftPfx a b cls)) id v false).2 = .ok)
    (h4 : (nftRecvBack Hc (nftSendToken A cls id u true).1 d2).2 = .ok) :
    (nftRecvBack Hc (nftSendToken A cls id u true).1 d2).1.nft.owner = upd A.nft.owner (cls, id) (some u2) ∧
    (nftSendToken (nftRecvAway Hc B p1 d1).1 (ibcClass Hc (getAway nftPfx a b cls)) id v false).1.nft.owner = B.nft.owner := by
  constructor
  · -- origin chain: lock, then release to the receiver
    obtain ⟨_, hl⟩ := nftSendToken_owner A cls id u true h1
    obtain ⟨np, hnp, _, hr⟩ := nftRecvBack_owner Hc _ d2 h4
    have hpf : delim ∉ nftPfx := by decide
    have hback : getBack d2.cls = some cls := by rw [hd2.1]; exact back_away_base nftPfx a b cls hpf ha hb hcls
    rw [hback] at hnp
    cases hnp
    rw [hr, hl, native_class_consistent Hc cls hcls, hd2.2.1, hd2.2.2]
    exact upd_upd ..
  · -- chain b: the voucher is minted, handed to `v`, burned again
    rcases (nftRecvAway_cases Hc B p1 d1).2 with ⟨_, hnone, hm⟩ | ⟨⟨e, he⟩, _⟩
    · simp only [hp1.1, hp1.2, hd1.1, hd1.2.1] at hnone hm
      obtain ⟨_, hbn⟩ := nftSendToken_owner _ _ id v false h3
      rw [hbn, hm, upd_upd, if_neg Bool.false_ne_true, ← hnone, upd_self]
    · rw [he] at h2; cases h2

/-- **"…and no token of it exists on the receiving side" is FALSE of the code** when the error
    acknowledgement comes from a chain the packet never named (known finding F-C06-relayedit; root
    cause C13). In both histories the last step processes an error acknowledgement and refunds the
    sender exactly (`nft_refund_exact`, `mt_refund_exact`), while the token delivered before is
    still on the destination chain. -/
theorem refund_although_delivered :
    (RelayEdit.results RelayEdit.nftHistory).getLast? = some Res.ok ∧
    (RelayEdit.nftWorld "A").apps.nft.owner ("dog".toList, "rex".toList) = some "alice" ∧
    (RelayEdit.nftWorld "C").apps.nft.owner (ibcClass id "nft/A/C/dog".toList, "rex".toList) = some "carol" ∧
    (RelayEdit.results RelayEdit.mtHistory).getLast? = some Res.ok ∧
    (RelayEdit.mtWorld "A").apps.mt.bal ("gold".toList, "bar".toList, "alice") = 9 ∧
    (RelayEdit.mtWorld "C").apps.mt.bal (ibcClass id "mt/A/C/gold".toList, "bar".toList, "carol") = 4 := by
  obtain ⟨hn, hnA, hnC⟩ := RelayEdit.nftHistory_outcome
  obtain ⟨hm, _, hmA, _, hmC⟩ := RelayEdit.mtHistory_outcome
  rw [hn, hm]
  exact ⟨rfl, hnA, hnC, rfl, hmA, hmC⟩

end Tibc.C06
