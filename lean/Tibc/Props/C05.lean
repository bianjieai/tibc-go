import Tibc.Lemmas.MtSupplyWorld
import Tibc.Lemmas.RelayEdit
/-
  C05 — Multi-token transfers conserve supply across chains.

  Status: PARTIAL. Proved: the 64-bit arithmetic of every token-module operation the transfer
  application uses (no wrap-around under the stated, locally checkable bounds; exact deltas of
  balances and supply), and that an error acknowledgement leaves balances and supplies unchanged.
  Proved over all histories of the N-chain world: on every chain, for every (class, id), the
  balances of all holders (users, the transfer module's escrow account) add up to the recorded
  supply and nothing exceeds 2^64-1 (`mt_supply_conserved`) — no operation, successful or failed,
  creates or destroys units except mint and burn, by exactly their amount.
  NOT proved: the cross-chain part (escrow on the origin = circulation downstream + in flight) —
  checked on the real chains by the provenance-ledger oracle of the `mt` stream.
-/
namespace Tibc.C05
open MtMod

variable (H : Data → Digest) (Hc : Str → Str)

/-- `TransferOwner`: exact effect, no wrap-around, when the receiver's balance has room; the
    total of the two balances is conserved. -/
theorem transferOwner_exact (m : MtMod) (cls id : Str) (amt : Nat) (src dst : Addr) (hne : src ≠ dst)
    (hsrc : m.bal (cls, id, src) ≤ U64MAX) (henough : amt ≤ m.bal (cls, id, src))
    (hroom : m.bal (cls, id, dst) + amt ≤ U64MAX) :
    (transferOwner m cls id amt src dst).2 = .ok ∧
    (transferOwner m cls id amt src dst).1.bal (cls, id, src) = m.bal (cls, id, src) - amt ∧
    (transferOwner m cls id amt src dst).1.bal (cls, id, dst) = m.bal (cls, id, dst) + amt ∧
    (transferOwner m cls id amt src dst).1.supply = m.supply := by
  rw [transferOwner_eq m cls id amt src dst hne hsrc henough hroom]
  exact ⟨rfl, by simp only [upd_other _ _ _ _ (key_ne hne), upd_same], upd_same _ _ _, rfl⟩

/-- `TransferOwner` refused ⇒ nothing changed, provided the receiver's balance has room (which
    the supply bound guarantees: balances of distinct holders sum to at most the supply). -/
theorem transferOwner_err_unchanged (m : MtMod) (cls id : Str) (amt : Nat) (src dst : Addr) (e : Err)
    (hroom : amt ≤ m.bal (cls, id, src) → src ≠ dst → m.bal (cls, id, dst) + amt ≤ U64MAX)
    (hsrc : m.bal (cls, id, src) ≤ U64MAX)
    (herr : (transferOwner m cls id amt src dst).2 = .err e) :
    (transferOwner m cls id amt src dst).1 = m := by
  by_cases hsd : src = dst
  · subst hsd; exact transferOwner_self m cls id amt src hsrc
  · rcases transferOwner_cases m cls id amt hsd hsrc (fun h => hroom h hsd) with ⟨_, e⟩ | e <;> rw [e] at herr ⊢
    cases herr

/-- `MintMT` / `IssueMT` increase supply and the recipient's balance by exactly `amt`, without
    wrap-around, or fail on the supply bound without touching balances or supply. -/
theorem mintMT_exact (m : MtMod) (cls id : Str) (amt : Nat) (rc : Addr)
    (hbal : m.bal (cls, id, rc) ≤ m.supply (cls, id)) (hsup : m.supply (cls, id) ≤ U64MAX) :
    ((mintMT m cls id amt rc).2 = .ok ∧ m.supply (cls, id) + amt ≤ U64MAX ∧
      (mintMT m cls id amt rc).1.supply = upd m.supply (cls, id) (m.supply (cls, id) + amt) ∧
      (mintMT m cls id amt rc).1.bal = upd m.bal (cls, id, rc) (m.bal (cls, id, rc) + amt)) ∨
    ((∃ e, (mintMT m cls id amt rc).2 = .err e) ∧ (mintMT m cls id amt rc).1 = m) := by
  rcases mintMT_cases m cls id amt rc hbal hsup with ⟨hroom, e⟩ | e <;> rw [e]
  · exact .inl ⟨rfl, hroom, rfl, rfl⟩
  · exact .inr ⟨⟨_, rfl⟩, rfl⟩

/-- **Refund is exact (MT).** If `SendMtTransfer` took `amt` units (escrowed them when moving away
    from the origin, burned them when moving back) on a chain whose multi-token module satisfies
    the conservation invariant, and the transfer is refunded, then every balance and every supply of
    the sending chain is exactly what it was before the send. -/
theorem mt_refund_exact (a a1 : Apps) (cls id full : Str) (sender receiver : Addr) (away : Bool) (dc md : String) (amt : Nat)
    (hinv : MtInv a.mt) (hcons : ibcClass Hc full = cls) (hsv : addrValid sender = true) (hne : sender ≠ mtModAddr)
    (htok : mtSendToken a cls id amt sender away = (a1, .ok)) :
    let d : MtData := { cls := full, id := id, data := md, sender := sender, receiver := receiver, away := away,
                        destContract := dc, amount := amt }
    (mtRefund Hc a1 d).2 = .ok ∧ (mtRefund Hc a1 d).1.mt.bal = a.mt.bal ∧ (mtRefund Hc a1 d).1.mt.supply = a.mt.supply := by
  intro d
  have hbs := hinv.bal_le cls id sender
  have hsup := hinv.supply_le cls id
  have h64 := Nat.le_trans hbs hsup
  -- the escrow account has room for whatever the sender holds
  have hroom : amt ≤ a.mt.bal (cls, id, sender) → a.mt.bal (cls, id, mtModAddr) + amt ≤ U64MAX := by
    have := hinv.two_bal_le cls id hne; omega
  unfold mtSendToken at htok
  unfold mtRefund
  simp only [d, hsv, hcons, Bool.not_true, Bool.false_eq_true, if_false]
  cases away with
  | true =>
    -- escrowed, then handed back
    rcases transferOwner_cases a.mt cls id amt hne h64 hroom with ⟨hen, e⟩ | e <;> rw [e] at htok <;> cases htok
    rw [if_pos rfl]
    rw [transferOwner_undo _ cls id amt sender mtModAddr a.mt.bal hne rfl hen h64 (hroom hen)]
    exact ⟨rfl, rfl, rfl⟩
  | false =>
    -- burned, then minted to the module account again and handed back
    rcases burn_cases a.mt cls id amt sender hbs hsup with ⟨hen, e⟩ | e <;> rw [e] at htok <;> cases htok
    rw [if_neg Bool.false_ne_true]
    simp only [liftMt]
    have hsub := Nat.sub_add_cancel (Nat.le_trans hen hbs)
    rw [mintMT_eq _ cls id amt mtModAddr (by simp only [upd_same, hsub, hsup])
      (by simp only [upd_other _ _ _ _ (key_ne (Ne.symm hne)), hroom hen])]
    simp only [upd_other _ _ _ _ (key_ne (Ne.symm hne)), upd_same, upd_upd]
    rw [transferOwner_undo _ cls id amt sender mtModAddr a.mt.bal hne rfl hen h64 (hroom hen), hsub, upd_self]
    exact ⟨rfl, rfl, rfl⟩

/-- **Conservation on every chain, over every history.** After any sequence of operations on any
    number of chains (user mints / sends / burns, transfers out, receives, refunds, error
    acknowledgements, failed and rolled-back messages), on every chain there is a finite set of
    holders outside which every balance is zero, the balances of every (class, id) over that set add
    up to exactly its recorded supply, and every supply (hence every balance) fits 64 bits: no
    wrap-around ever happened and units are created and destroyed only by mint and burn. -/
theorem mt_supply_conserved (ops : List Op) (c : Chain) : MtInv ((run H Hc World.init ops) c).apps.mt :=
  (run_mtSteps H Hc World.init ops c).inv mtInv_empty

/-- consequence: no holder ever has more than the supply, and the supply never exceeds 2^64-1 -/
theorem mt_balance_le_supply (ops : List Op) (c : Chain) (cls id : Str) (a : Addr) :
    ((run H Hc World.init ops) c).apps.mt.bal (cls, id, a) ≤ ((run H Hc World.init ops) c).apps.mt.supply (cls, id) ∧
    ((run H Hc World.init ops) c).apps.mt.supply (cls, id) ≤ U64MAX := by
  have h := mt_supply_conserved H Hc ops c
  exact ⟨h.bal_le cls id a, h.supply_le cls id⟩

/-- **The cross-chain part of the statement is FALSE of the code** (known finding
    F-C05-relayedit; root cause C13). In the history `RelayEdit.mtHistory` every step is accepted;
    9 units are minted on A and 4 of them sent directly to C. At the end `alice` holds 9 units on
    A again, `carol` holds 4 voucher units on C, and A's escrow is empty: 13 user-held units for 9
    minted, and vouchers in circulation that nothing backs. (Per chain, supply = sum of balances
    still holds — `mt_supply_conserved`.) -/
theorem conservation_fails_under_relay_edit :
    RelayEdit.results RelayEdit.mtHistory = List.replicate 13 Res.ok ∧
    (RelayEdit.mtWorld "A").apps.mt.supply ("gold".toList, "bar".toList) = 9 ∧
    (RelayEdit.mtWorld "A").apps.mt.bal ("gold".toList, "bar".toList, "alice") = 9 ∧
    (RelayEdit.mtWorld "A").apps.mt.bal ("gold".toList, "bar".toList, mtModAddr) = 0 ∧
    (RelayEdit.mtWorld "C").apps.mt.bal (ibcClass id "mt/A/C/gold".toList, "bar".toList, "carol") = 4 :=
  RelayEdit.mtHistory_outcome

/-- **Units locked for good by a port edit** (known finding F-C05-portedit; root cause C13: the
    commitment does not bind the port, and both transfer applications' packet data share one
    protobuf layout). In `RelayEdit.portHistory` every step is accepted: 4 of 9 units are sent
    from A to C, the packet is delivered to C with `port := "NFT"`, the NFT application mints an
    NFT voucher `nft/A/C/gold : bar` for `carol` and answers with a success acknowledgement. A's
    escrow keeps the 4 units although no multi-token voucher exists on C and nothing is in flight
    (the commitment is gone). -/
theorem escrow_unbacked_under_port_edit :
    RelayEdit.results RelayEdit.portHistory = List.replicate 11 Res.ok ∧
    (RelayEdit.portWorld "A").apps.mt.bal ("gold".toList, "bar".toList, mtModAddr) = 4 ∧
    (RelayEdit.portWorld "C").apps.mt.supply (ibcClass id "mt/A/C/gold".toList, "bar".toList) = 0 ∧
    (RelayEdit.portWorld "C").apps.nft.owner (ibcClass id "nft/A/C/gold".toList, "bar".toList) = some "carol" ∧
    (RelayEdit.portWorld "A").core.ps.commit RelayEdit.mpkt.key = none := by
  decide +kernel

end Tibc.C05
