import Tibc.Props.C06
import Tibc.World
import Tibc.Lemmas.RelayEdit
/-
  C04 — NFT transfers never duplicate an NFT or release escrow to the wrong claimant.

  Status: PARTIAL. Proved here, for all strings / states: the class-path algebra the direction
  decision rests on, the send-side guard that makes native classes well-formed, and the per-step
  custody facts (a send locks or burns exactly the sender's token; a receive releases only a token
  that is in escrow, and mints vouchers only in classes owned by the transfer module; users
  cannot mint in such classes). NOT yet proved: the global statement `HolderUniqueStatement`
  below (exactly one holder across all chains for every history) — it is checked on the real
  chains by the provenance-ledger oracle of the `nft` stream instead (DESIGN §5 C04).
-/
namespace Tibc.C04
open ClassPath C06

variable (Hc : Str → Str)

/-- After one hop away from a base class, the direction test says "back" exactly for the chain
    the token came from. -/
theorem direction_after_away_base (pfx s d b y : Str) (hp : delim ∉ pfx) (hs : delim ∉ s) (hd : delim ∉ d)
    (hb : WfBase b) :
    determineAway pfx (getAway pfx s d b) y = some (s != y) := by
  rw [getAway_base pfx s d b hb]
  exact determineAway_of_split pfx y (init := [pfx]) (split_join4 hp hs hd hb) (hasPrefix_join delim pfx _)

/-- The send-side guard (repair of F-C04): a successful `MsgNftTransfer` of a class that is not a
    voucher class implies the class is free of the path delimiter — `WfBase` is *established* by
    the code, not assumed. -/
theorem native_send_requires_wf_base (s : State) (cls id : Str) (dst : Chain) (full : Str) (away : Bool)
    (hnv : hasPrefix voucherPfx cls = false) (hok : nftSendPre s cls id dst = .ok (full, away)) :
    WfBase cls ∧ full = cls := by
  unfold nftSendPre at hok
  -- the guards in order, each closing its refusing branch: class known, token known, destination another
  -- chain, no `/` in a class that is no voucher, direction determined
  cases h1 : s.apps.nft.denom cls <;> simp only [h1, reduceCtorEq] at hok
  cases h2 : s.apps.nft.owner (cls, id) <;> simp only [h2, reduceCtorEq] at hok
  cases h3 : s.core.name == dst <;> simp only [h3, hnv, if_true, reduceCtorEq, Bool.false_eq_true, if_false] at hok
  cases hd : hasDelim cls <;> simp only [hd, if_true, reduceCtorEq, Bool.false_eq_true, if_false] at hok
  cases h4 : determineAway nftPfx cls dst.toList <;> simp only [h4, reduceCtorEq, Except.ok.injEq, Prod.mk.injEq] at hok
  exact ⟨(hasDelim_eq_false cls).1 hd, hok.1.symm⟩

/-- A successful send moves exactly the sender's own token: towards the origin it is burnt,
    away from it it is locked with the transfer module; in both cases the sender owned it. -/
theorem send_locks_or_burns (a : Apps) (cls id : Str) (sender : Addr) (away : Bool)
    (hok : (nftSendToken a cls id sender away).2 = .ok) :
    a.nft.owner (cls, id) = some sender ∧
    (nftSendToken a cls id sender away).1.nft.owner =
      upd a.nft.owner (cls, id) (if away then some nftModAddr else none) :=
  nftSendToken_owner a cls id sender away hok

/-- Users cannot create vouchers: minting in a class that is mint-restricted and owned by the
    transfer module is refused for every other sender (voucher classes are created exactly so). -/
theorem users_cannot_mint_vouchers (s : State) (sender : Addr) (cls id : Str) (uri : String) (rc : Addr)
    (hden : s.apps.nft.denom cls = some ⟨nftModAddr, true⟩) (hs : sender ≠ nftModAddr) :
    (nftMintMsg s sender cls id uri rc).1 = s ∧ (nftMintMsg s sender cls id uri rc).2 ≠ .ok := by
  fun_cases nftMintMsg s sender cls id uri rc with
  | case1 | case2 | case3 | case4 | case5 => exact ⟨rfl, Res.noConfusion⟩
  | case6 _ _ _ d hd hno =>
    -- the branch that mints: only for the class's creator
    cases hden.symm.trans hd
    exact absurd (by simpa using hno) hs.symm

/-- An accepted *returning* packet releases only a token that is in the transfer module's
    escrow, under the class obtained by stripping the last hop from the packet's class path. -/
theorem recv_back_releases_only_escrowed (a : Apps) (d : NftData)
    (hok : (nftRecvBack Hc a d).2 = .ok) :
    ∃ newPath, getBack d.cls = some newPath ∧
      a.nft.owner (ibcClass Hc newPath, d.id) = some nftModAddr ∧
      (nftRecvBack Hc a d).1.nft.owner = upd a.nft.owner (ibcClass Hc newPath, d.id) (some d.receiver) :=
  nftRecvBack_owner Hc a d hok

/-- **The global one-holder statement is FALSE of the code** (known finding F-C04-relayedit; the
    root cause is C13: the packet commitment does not bind the relay chain). In the history
    `RelayEdit.nftHistory` every step is accepted; the NFT `dog/rex`, minted once on A and sent
    directly to C, ends up held by `alice` on A (refunded on the strength of a third chain's
    refusal) *and*, as a voucher, by `carol` on C. Evaluated by the kernel; replayed on the real
    chains by the `nft` stream (scenario `relay-edit-after-delivery`). -/
theorem one_holder_fails_under_relay_edit :
    RelayEdit.results RelayEdit.nftHistory = List.replicate 13 Res.ok ∧
    (RelayEdit.nftWorld "A").apps.nft.owner ("dog".toList, "rex".toList) = some "alice" ∧
    (RelayEdit.nftWorld "C").apps.nft.owner (ibcClass id "nft/A/C/dog".toList, "rex".toList) = some "carol" :=
  RelayEdit.nftHistory_outcome

end Tibc.C04
