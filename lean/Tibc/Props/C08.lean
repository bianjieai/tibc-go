import Tibc.Commitment.Verify
/-
  C08 — State-proof verification is sound and complete for every client type.

  The counterparty state whose root the client recorded at the proof height is an abstract
  key-value map.  A proof is described by what it genuinely proves (`TmProof`, `EthProof`);
  `TmValid` / `EthValid` say that the description is truthful w.r.t. that state — this is the
  binding property of ICS-23 / IAVL and of the Merkle-Patricia trie + RLP (a hypothesis here, and
  exercised against the real libraries by the `proofs` stream).  The honest prover's proof
  (`tmHonest`, `ethHonest`) is the completeness side of the same libraries.
-/
namespace Tibc.C08
open Tibc.Verify

/-- the description `π` is truthful for the recorded state `store` (full path ↦ value) -/
def TmValid (store : String → Option String) : TmProof → Prop
  | .genuine k v => store k = v
  | _ => True

/-- height bound, consensus state recorded, confirmation delay (time) elapsed -/
def TmConditions (c : TmCtx) (h : Nat) : Prop :=
  h ≤ c.latest ∧ (∃ r, c.consRoot = some r) ∧ ∃ pt, c.processed = some pt ∧ pt + c.delay ≤ c.now

theorem tm_verify_iff (c : TmCtx) (h : Nat) (π : TmProof) (path value : String) :
    tmVerify c h π path value = true ↔
      h ≤ c.latest ∧ (∃ r, c.consRoot = some r) ∧
      (∃ pt, c.processed = some pt ∧ pt + c.delay < U64 ∧ pt + c.delay ≤ c.now) ∧
      value ≠ "" ∧ π = .genuine path (some value) := by
  unfold tmVerify
  cases c.processed with
  | none => simp
  | some pt =>
    cases c.consRoot with
    | none => simp
    | some r =>
      simp only [Bool.and_eq_true, decide_eq_true_eq, bne_iff_ne, Option.isSome_some, beq_iff_eq,
        Option.some.injEq, exists_eq_left', Bool.and_true, and_assoc]
      -- the first two checks on `π` follow from the last
      constructor
      · rintro ⟨h1, _, _, h4, h5, h6, h7⟩
        exact ⟨h1, ⟨r, rfl⟩, h4, h5, h6, h7⟩
      · rintro ⟨h1, _, h4, h5, h6, rfl⟩
        exact ⟨h1, nofun, nofun, h4, h5, h6, rfl⟩

/-- **Soundness (Tendermint).** Whatever bytes are submitted, if verification succeeds then the
    claimed value is stored under exactly the queried protocol path in the recorded state, the
    height is not above the client's latest, and the time delay has elapsed. -/
theorem tm_sound (store : String → Option String) (c : TmCtx) (h : Nat) (π : TmProof) (path value : String)
    (hv : TmValid store π) (hok : tmVerify c h π path value = true) :
    store path = some value ∧ TmConditions c h := by
  obtain ⟨h1, h2, ⟨pt, h3, _, h5⟩, _, h7⟩ := (tm_verify_iff c h π path value).mp hok
  subst h7
  exact ⟨hv, h1, h2, pt, h3, h5⟩

/-- **Completeness (Tendermint).** If the (non-empty) value is stored under the protocol path in the
    recorded state and the height / delay conditions hold, the honest proof verifies.
    (`pt + delay < 2^64`: an overflowing delay is refused — repair F-C08c.) -/
theorem tm_complete (store : String → Option String) (c : TmCtx) (h : Nat) (path value : String)
    (hs : store path = some value) (hne : value ≠ "") (hc : TmConditions c h)
    (hno : ∀ pt, c.processed = some pt → pt + c.delay < U64) :
    TmValid store (.genuine path (some value)) ∧ tmVerify c h (.genuine path (some value)) path value = true := by
  obtain ⟨h1, h2, pt, h3, h4⟩ := hc
  exact ⟨hs, (tm_verify_iff c h _ path value).mpr ⟨h1, h2, ⟨pt, h3, hno pt h3, h4⟩, hne, rfl⟩⟩

/-- **Exactly when (Tendermint).** Some truthful proof verifies iff the value is stored and the
    conditions hold. -/
theorem tm_exactly_when (store : String → Option String) (c : TmCtx) (h : Nat) (path value : String)
    (hne : value ≠ "") (hno : ∀ pt, c.processed = some pt → pt + c.delay < U64) :
    (∃ π, TmValid store π ∧ tmVerify c h π path value = true) ↔ (store path = some value ∧ TmConditions c h) := by
  constructor
  · rintro ⟨π, hv, hok⟩; exact tm_sound store c h π path value hv hok
  · rintro ⟨hs, hc⟩; exact ⟨_, tm_complete store c h path value hs hne hc hno⟩

/-- a proof for another key, another value, another root, absent, or undecodable never verifies -/
theorem tm_wrong_proof_rejected (c : TmCtx) (h : Nat) (π : TmProof) (path value : String)
    (hw : π ≠ .genuine path (some value)) : tmVerify c h π path value = false := by
  cases hh : tmVerify c h π path value with
  | false => rfl
  | true => exact absurd ((tm_verify_iff c h π path value).mp hh).2.2.2.2 hw

/-- the description `π` is truthful: if the account proof chains to the recorded root for the
    client's contract with the shipped account fields, and the storage proof chains to that
    account's storage root at keccak(slot of the queried key), then the proven word is what the
    recorded state holds at that slot (`none`: nothing stored) -/
def EthValid (stored : Option String) (π : EthProof) : Prop :=
  π.addrOk = true → π.acctProofOk = true → π.acctFieldsOk = true → π.keyIsSlot = true → π.storProofOk = true →
    π.word = stored

def EthConditions (c : EthCtx) (h : Nat) : Prop :=
  h ≤ c.latest ∧ c.consExists = true ∧ c.latest - h ≥ c.delayBlock

/-- what `eth_getProof` returns for the queried slot -/
def ethHonest (stored : Option String) : EthProof :=
  { decodes := true, addrOk := true, acctProofOk := true, acctFieldsOk := true, nStorage := 1,
    keyIsSlot := true, storProofOk := true, word := stored }

theorem eth_verify_iff (c : EthCtx) (h : Nat) (π : EthProof) (claimed : String) :
    ethVerify c h π claimed = true ↔
      EthConditions c h ∧ π.decodes = true ∧ π.addrOk = true ∧ π.acctProofOk = true ∧ π.acctFieldsOk = true ∧
      π.nStorage = 1 ∧ π.keyIsSlot = true ∧ π.storProofOk = true ∧ π.word = some (padHex 64 claimed) := by
  unfold ethVerify EthConditions wordMatches
  cases π.word with
  | none => simp
  | some w =>
    simp only [Bool.and_eq_true, decide_eq_true_eq, beq_iff_eq, Option.some.injEq, and_assoc]
    -- the two sides differ in where `π.decodes` stands
    constructor
    · rintro ⟨a, b, c', d, r⟩; exact ⟨a, c', d, b, r⟩
    · rintro ⟨a, c', d, b, r⟩; exact ⟨a, b, c', d, r⟩

/-- **Soundness (ETH).** -/
theorem eth_sound (stored : Option String) (c : EthCtx) (h : Nat) (π : EthProof) (claimed : String)
    (hv : EthValid stored π) (hok : ethVerify c h π claimed = true) :
    stored = some (padHex 64 claimed) ∧ EthConditions c h := by
  obtain ⟨hc, _, a, b, d, _, e, f, g⟩ := (eth_verify_iff c h π claimed).mp hok
  exact ⟨(hv a b d e f).symm.trans g, hc⟩

/-- **Completeness (ETH).** -/
theorem eth_complete (stored : Option String) (c : EthCtx) (h : Nat) (claimed : String)
    (hs : stored = some (padHex 64 claimed)) (hc : EthConditions c h) :
    EthValid stored (ethHonest stored) ∧ ethVerify c h (ethHonest stored) claimed = true :=
  ⟨fun _ _ _ _ _ => rfl, (eth_verify_iff c h _ claimed).mpr ⟨hc, rfl, rfl, rfl, rfl, rfl, rfl, rfl, hs⟩⟩

theorem eth_exactly_when (stored : Option String) (c : EthCtx) (h : Nat) (claimed : String) :
    (∃ π, EthValid stored π ∧ ethVerify c h π claimed = true) ↔ (stored = some (padHex 64 claimed) ∧ EthConditions c h) :=
  ⟨fun ⟨π, hv, hok⟩ => eth_sound stored c h π claimed hv hok,
   fun ⟨hs, hc⟩ => ⟨_, eth_complete stored c h claimed hs hc⟩⟩

/-- **BSC** verifies exactly like ETH (the slot is compared with `sp.Key`, the trie path is its hash). -/
theorem bsc_exactly_when (stored : Option String) (c : EthCtx) (h : Nat) (claimed : String) :
    (∃ π, EthValid stored π ∧ bscVerify c h π claimed = true) ↔ (stored = some (padHex 64 claimed) ∧ EthConditions c h) :=
  eth_exactly_when stored c h claimed

theorem bsc_honest_accepted (stored : Option String) (c : EthCtx) (h : Nat) (claimed : String)
    (hs : stored = some (padHex 64 claimed)) (hc : EthConditions c h) :
    bscVerify c h (ethHonest stored) claimed = true :=
  (eth_complete stored c h claimed hs hc).2

/-- the 8-byte clean sequence is matched against the stored 32-byte word -/
example : wordMatches (some "0000000000000000000000000000000000000000000000000000000000000007") "0000000000000007" = true := by
  decide +kernel

/-- Non-vacuity: concrete contexts on which honest proofs verify. -/
example : tmVerify ⟨10, some "r", some 100, 5, 105⟩ 9 (.genuine "tibc/commitments/a/b/1" (some "ab")) "tibc/commitments/a/b/1" "ab" = true := by
  decide +kernel
example : ethVerify ⟨200, true, 12⟩ 188 (ethHonest (some (padHex 64 "ab"))) "ab" = true := by decide +kernel
example : ethVerify ⟨200, true, 12⟩ 189 (ethHonest (some (padHex 64 "ab"))) "ab" = false := by decide +kernel

end Tibc.C08
