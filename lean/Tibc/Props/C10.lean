import Tibc.Lemmas.World
import Tibc.Lemmas.HostKeys
/-
  C10 — Cleanup never discards live state and the clean point only moves forward.
-/
namespace Tibc.C10
open Core

variable (H : Data → Digest) (Hc : Str → Str)

/-- On the source a clean request for `N` is accepted **iff** `N ≠ 0`, `N` is above the previous
    clean point, not above the highest acknowledged sequence, no packet commitment is left in
    `[cleanPoint, N]` (i.e. every packet up to `N` has been acknowledged), and the next hop's
    client exists. -/
theorem clean_accept_iff_source (s : Core) (cp : CleanPacket) :
    (cleanPacket s cp).2 = .ok ↔ CleanOk s cp := by
  rcases cleanPacket_cases s cp with ⟨hok, e⟩ | ⟨hno, e', e⟩
  · rw [e]; exact ⟨fun _ => hok, fun _ => rfl⟩
  · rw [e]; exact ⟨fun h => (by cases h), fun h => absurd h hno⟩

/-- Elsewhere a clean request changes anything only if the same range conditions hold locally
    *and* the proving chain's recorded state holds the source's clean point `= N`. -/
theorem recvclean_accepted_only_with_proof (s : Core) (cp : CleanPacket) (π : Proof) (h : Nat)
    (hch : (recvCleanPacket s cp π h).2 = .ok ∨ (recvCleanPacket s cp π h).1 ≠ s) :
    RecvCleanOk s cp π h := by
  rcases recvCleanPacket_cases s cp π h with ⟨hok, _⟩ | ⟨_, e, he⟩
  · exact hok
  · exact (refused_no_effect he hch.symm).elim

/-- ... and under those conditions it is accepted (on a relay chain: provided the destination's
    client exists). -/
theorem recvclean_accepted_with_proof (s : Core) (cp : CleanPacket) (π : Proof) (h : Nat)
    (hok : RecvCleanOk s cp π h) (hrelay : cp.relay = s.name → (s.clients cp.dst).isSome = true) :
    (recvCleanPacket s cp π h).2 = .ok := by
  rw [recvCleanPacket_of_ok hok, recvCleanWrites_eq]
  show (if (cp.relay == s.name && (s.clients cp.dst).isNone) = true then Res.err .clientNotFound else .ok) = .ok
  rw [if_neg]
  intro hc
  rw [Bool.and_eq_true, beq_iff_eq] at hc
  cases hs : s.clients cp.dst with
  | none => rw [hs] at hrelay; cases hrelay hc.1
  | some _ => rw [hs] at hc; cases hc.2

/-- Exact effect of an accepted receive-clean: receipts and acknowledgements with
    `cleanPoint < seq ≤ N` of that pair are removed and nothing else; commitments, sequences and
    the highest acknowledged sequence are untouched; the clean point becomes `N`. -/
theorem clean_effect (s : Core) (cp : CleanPacket) :
    let t := (recvCleanWrites s cp).1
    (∀ k, t.ps.receipt k =
        if k.src = cp.src ∧ k.dst = cp.dst ∧ s.ps.clean cp.pair < k.seq ∧ k.seq ≤ cp.seq ∧ s.ps.clean cp.pair < cp.seq
        then false else s.ps.receipt k) ∧
    (∀ k, t.ps.ack k =
        if k.src = cp.src ∧ k.dst = cp.dst ∧ s.ps.clean cp.pair < k.seq ∧ k.seq ≤ cp.seq ∧ s.ps.clean cp.pair < cp.seq
        then none else s.ps.ack k) ∧
    t.ps.commit = s.ps.commit ∧ t.ps.nextSend = s.ps.nextSend ∧ t.ps.maxAck = s.ps.maxAck ∧
    t.ps.clean = upd s.ps.clean cp.pair cp.seq := by
  rw [recvCleanWrites_eq]
  have range (k : PKey) : (k.src = cp.src ∧ k.dst = cp.dst ∧ s.ps.clean cp.pair < k.seq ∧ k.seq ≤ cp.seq) ↔
      (k.src = cp.src ∧ k.dst = cp.dst ∧ s.ps.clean cp.pair < k.seq ∧ k.seq ≤ cp.seq ∧ s.ps.clean cp.pair < cp.seq) :=
    ⟨fun ⟨a, b, c, d⟩ => ⟨a, b, c, d, Nat.lt_of_lt_of_le c d⟩, fun ⟨a, b, c, d, _⟩ => ⟨a, b, c, d⟩⟩
  exact ⟨fun k => ite_iff_congr (range k) _ _, fun k => ite_iff_congr (range k) _ _, rfl, rfl, rfl, rfl⟩

/-- The clean point never decreases: for every history of operations on any number of chains,
    on every chain and for every (source, destination). -/
theorem cleanpoint_monotone (w : World) (ops : List Op) (c : Chain) (pr : Pair) :
    (w c).core.ps.clean pr ≤ ((run H Hc w ops) c).core.ps.clean pr :=
  (run_grow H Hc w ops c).clean pr

/-- Refused for good: once a chain's clean point for a pair has reached `N`, every packet and
    every acknowledgement with sequence `≤ N` on that pair is rejected by that chain — in the
    state itself and after any continuation of the history. -/
theorem refused_for_good (w : World) (ops : List Op) (c : Chain) (p : Packet) (π : Proof) (h : Nat)
    (ack : Data) (t : String) (hseq : p.seq ≤ (w c).core.ps.clean p.pair) :
    let w' := run H Hc w ops
    (step H Hc w' (.tx c (.recvPacket p π h t))).2 ≠ .ok ∧
    (step H Hc w' (.tx c (.acknowledgement p ack π h))).2 ≠ .ok := by
  intro w'
  have hle : p.seq ≤ (w' c).core.ps.clean p.pair := Nat.le_trans hseq (cleanpoint_monotone H Hc w ops c p.pair)
  have hv : validatePacket (w' c).core p ≠ .ok :=
    fun h => Nat.not_le.mpr ((validatePacket_ok_iff _ p).mp h).2.2 hle
  exact ⟨fun hok => hv (deliver_recv_ok H Hc (w' c) p π h t hok).1,
    fun hok => hv (deliver_ack_ok H Hc (w' c) p ack π h hok).1⟩

/-- **Store keys of clean points**: one per `(source, destination)`, never the key of the
    highest-acknowledged counter, the next-send counter or any sequence-indexed entry. -/
theorem clean_key_injective {src src' dst dst' : Str}
    (hs : '/' ∉ src) (hd : '/' ∉ dst) (hs' : '/' ∉ src') (hd' : '/' ∉ dst')
    (h : Host.cleanPacketCommitmentPath src dst = Host.cleanPacketCommitmentPath src' dst') :
    src = src' ∧ dst = dst' :=
  (Host.pairPath_injective Host.cleanPfx_noslash hs hd Host.cleanPfx_noslash hs' hd' h).2

theorem clean_key_family_disjoint {src src' dst dst' : Str} {n : Nat}
    (hs : '/' ∉ src) (hd : '/' ∉ dst) (hs' : '/' ∉ src') (hd' : '/' ∉ dst') :
    Host.cleanPacketCommitmentPath src dst ≠ Host.maxAckSeqPath src' dst' ∧
    Host.cleanPacketCommitmentPath src dst ≠ Host.nextSequenceSendPath src' dst' ∧
    Host.cleanPacketCommitmentPath src dst ≠ Host.packetCommitmentPath src' dst' n :=
  ⟨fun h => absurd (Host.pairPath_injective Host.cleanPfx_noslash hs hd Host.maxAckPfx_noslash hs' hd' h).1 (by decide +kernel),
   fun h => absurd (Host.pairPath_injective Host.cleanPfx_noslash hs hd Host.nextSendPfx_noslash hs' hd' h).1 (by decide +kernel),
   (Host.seqPath_ne_pairPath Host.commitPfx_noslash hs' hd' Host.cleanPfx_noslash hs hd).symm⟩

end Tibc.C10
