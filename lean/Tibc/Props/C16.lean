import Tibc.Genesis.Model
import Tibc.Lemmas.HostKeys
/-
  C16 — Genesis export and re-import preserve all protocol state.
  (PARTIAL: the property is false of the code for clean points, highest
  acknowledged sequences and voucher class traces — no genesis field exists for them; proved here:
  what survives, exactly what is lost, and the store-key codec for every height.)
-/
namespace Tibc.C16
open Tibc.Genesis Tibc.Core

/-- **What survives (packet state).** Pending commitments, acknowledgements, receipts (replay
    protection) and next send sequences of every route survive; clean points and highest
    acknowledged sequences come back as "absent". -/
theorem packet_reimport_partial (ps : PStore) :
    let ps' := importPacket (exportPacket ps)
    ps'.commit = ps.commit ∧ ps'.ack = ps.ack ∧ ps'.receipt = ps.receipt ∧ ps'.nextSend = ps.nextSend ∧
    (∀ r, ps'.clean r = 0) ∧ (∀ r, ps'.maxAck r = 0) :=
  ⟨rfl, rfl, rfl, rfl, fun _ => rfl, fun _ => rfl⟩

/-- **Exactly what is lost.** Export and re-import give back the very same packet state if and
    only if no route has a clean point or an acknowledged packet. -/
theorem packet_reimport_exact_iff (ps : PStore) :
    importPacket (exportPacket ps) = ps ↔ (∀ r, ps.clean r = 0) ∧ (∀ r, ps.maxAck r = 0) := by
  constructor
  · intro h
    have h1 : (importPacket (exportPacket ps)).clean = ps.clean := by rw [h]
    have h2 : (importPacket (exportPacket ps)).maxAck = ps.maxAck := by rw [h]
    exact ⟨fun r => by rw [← h1]; rfl, fun r => by rw [← h2]; rfl⟩
  · rintro ⟨h1, h2⟩
    cases ps with
    | mk ns cm rc ak cl mx =>
      simp only [importPacket, exportPacket, PStore.mk.injEq, true_and]
      exact ⟨funext (fun r => (h1 r).symm), funext (fun r => (h2 r).symm)⟩

/-- **Clients, relayer registry, routing rules and chain name survive**: every client's trusted
    states at every height (with their metadata), of any client type. -/
theorem core_reimport (s : Core) (auth : Addr) (now : Nat) :
    let s' := importCore (exportCore s) auth now
    s'.clients = s.clients ∧ s'.relayers = s.relayers ∧ s'.rules = s.rules ∧ s'.name = s.name :=
  ⟨rfl, rfl, rfl, rfl⟩

/-- **Replay protection below a clean point does not survive (known finding F-C16d).** A packet at
    or below the clean point of its route is refused by the original chain for good; the re-imported
    chain passes it to proof verification again (its receipt was deleted by the clean). -/
theorem clean_point_lost (s : Core) (p : Packet) (auth : Addr) (now : Nat)
    (hb : packetBasic p = true) (hroute : (p.relay != s.name && p.dst != s.name && p.src != s.name) = false)
    (hc : p.seq ≤ s.ps.clean p.pair) :
    validatePacket s p = .err .invalidPacket ∧ validatePacket (importCore (exportCore s) auth now) p = .ok := by
  constructor
  · unfold validatePacket
    simp [hb, hroute, hc]
  · unfold validatePacket
    have hn : (importCore (exportCore s) auth now).name = s.name := rfl
    have h0 : (importCore (exportCore s) auth now).ps.clean p.pair = 0 := rfl
    have hs : ¬ p.seq ≤ 0 := by
      unfold packetBasic at hb
      simp only [Bool.and_eq_true, bne_iff_ne] at hb
      omega
    simp [hb, hn, hroute, h0, hs]

/-- **Voucher class traces do not survive (known finding F-C16e).** -/
theorem traces_lost (a : Apps) : (importApps a).nftTraces = (fun _ => none) ∧ (importApps a).mtTraces = (fun _ => none) ∧
    (importApps a).nft = a.nft ∧ (importApps a).mt = a.mt := ⟨rfl, rfl, rfl, rfl⟩

/-- one more base-256 digit: the digit of weight `m` on top of what lies below it -/
theorem digit_step (n m : Nat) : n / m % 256 * m + n % m = n % (m * 256) := by
  rw [Nat.mod_mul, Nat.mul_comm, Nat.add_comm]

theorem be8_mod (n : Nat) : ofBe8 (be8 n) = n % 18446744073709551616 := by
  -- the sum is folded from its low end, `digit_step` taking in one digit at a time
  simp only [be8, ofBe8, Nat.add_assoc, digit_step]

theorem be8_roundtrip (n : Nat) (h : n < 18446744073709551616) : ofBe8 (be8 n) = n := by
  rw [be8_mod, Nat.mod_eq_of_lt h]

theorem be8_length (n : Nat) : (be8 n).length = 8 := rfl

theorem stripPrefix_append (p l : Bytes) : stripPrefix p (p ++ l) = some l := by
  simp [stripPrefix]

theorem cutSlash_append (chain tail : Bytes) (h : ∀ b ∈ chain, b ≠ slash) :
    cutSlash (chain ++ slash :: tail) = some (chain, tail) := by
  induction chain with
  | nil => simp [cutSlash]
  | cons b rest ih =>
    rw [List.cons_append, cutSlash, if_neg (h b List.mem_cons_self), ih fun x hx => h x (List.mem_cons_of_mem _ hx)]; rfl

/-- what the parser makes of a key with a `/`-free chain name, whatever follows "consensusStates/" -/
theorem parseConsKey_frame (chain hb : Bytes) (hc : ∀ b ∈ chain, b ≠ slash) :
    parseConsKey (pClients ++ chain ++ [slash] ++ pCons ++ hb) =
      if hb.length = 16 then some (chain, ofBe8 (hb.take 8), ofBe8 (hb.drop 8)) else none := by
  have e : pClients ++ chain ++ [slash] ++ pCons ++ hb = pClients ++ (chain ++ slash :: (pCons ++ hb)) := by
    simp only [List.append_assoc, List.cons_append, List.nil_append]
  simp only [parseConsKey, e, stripPrefix_append, cutSlash_append _ _ hc]

/-- **Every consensus-state key is read back as the chain name and height it was written for** —
    for all 64-bit revision numbers and heights (including those whose bytes contain '/') and every
    chain name (which cannot contain '/'). -/
theorem parse_consKey (chain : Bytes) (rev h : Nat) (hc : ∀ b ∈ chain, b ≠ slash)
    (hr : rev < 18446744073709551616) (hh : h < 18446744073709551616) :
    parseConsKey (consKey chain rev h) = some (chain, rev, h) := by
  rw [consKey, List.append_assoc _ (be8 rev), parseConsKey_frame _ _ hc, if_pos (by rfl),
    List.take_left' (be8_length rev), List.drop_left' (be8_length rev), be8_roundtrip rev hr, be8_roundtrip h hh]

/-- a processed-time key is never mistaken for a consensus-state key -/
theorem processedKey_not_cons (chain : Bytes) (rev h : Nat) (hc : ∀ b ∈ chain, b ≠ slash) :
    parseConsKey (processedKey chain rev h) = none := by
  rw [processedKey, consKey, List.append_assoc _ (be8 h), List.append_assoc _ (be8 rev), parseConsKey_frame _ _ hc]
  exact if_neg (by simp only [List.length_append, be8_length]; decide +kernel)

/-- the parser before the repair lost height 47 (0x2F = '/'): evaluated witness of F-C16a -/
example : parseConsKeyBySplit (consKey (strBytes "chainA") 0 47) = none := by decide +kernel
example : parseConsKeyBySplit (consKey (strBytes "chainA") 0 46) = some (strBytes "chainA", 0, 46) := by decide +kernel
example : parseConsKey (consKey (strBytes "chainA") 0 47) = some (strBytes "chainA", 0, 47) := by decide +kernel

/-- **Export reads every sequence-indexed key back as what was written.** The genesis exporters
    walk the commitment / receipt / acknowledgement families with `iterateHashes`, which recovers
    `(source, destination, sequence)` from the key: for chain names without `/` and 64-bit
    sequences the recovered triple is exactly the one the key was built from. -/
theorem export_reads_seq_keys (src dst : Str) (n : Nat) (hs : '/' ∉ src) (hd : '/' ∉ dst) (hn : n < 2 ^ 64) :
    Host.parseSeqPath (Host.packetCommitmentPath src dst n) = some (src, dst, n) ∧
    Host.parseSeqPath (Host.packetReceiptPath src dst n) = some (src, dst, n) ∧
    Host.parseSeqPath (Host.packetAcknowledgementPath src dst n) = some (src, dst, n) :=
  ⟨Host.parseSeqPath_seqPath Host.commitPfx_noslash hs hd hn,
   Host.parseSeqPath_seqPath Host.receiptPfx_noslash hs hd hn,
   Host.parseSeqPath_seqPath Host.ackPfx_noslash hs hd hn⟩

/-- … and the per-pair counters (`IteratePacketSequence` / `ParseChannelPath`). -/
theorem export_reads_pair_keys (src dst : Str) (hs : '/' ∉ src) (hd : '/' ∉ dst) :
    Host.parseChannelPath (Host.nextSequenceSendPath src dst) = some (src, dst) :=
  Host.parseChannelPath_pairPath Host.nextSendPfx_noslash hs hd

end Tibc.C16
