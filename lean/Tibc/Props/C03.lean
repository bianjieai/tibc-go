import Tibc.Lemmas.Origin
import Tibc.Lemmas.AckOnce
import Tibc.Lemmas.HostKeys
/-
  C03 — Acknowledgements are authentic, written once and processed at most once.
-/
namespace Tibc.C03
open Core

variable (H : Data → Digest) (Hc : Str → Str)

/-- The application's acknowledgement logic runs and the commitment is dropped only if this chain
    still holds the commitment `H data` of exactly that packet and the chain the acknowledgement
    must be proven from has recorded exactly `H ack` under that packet's key (genuine proof, for
    that key, at that height). -/
theorem ack_accepted_authentic (s : State) (p : Packet) (a : Data) (π : Proof) (h : Nat)
    (hok : (deliver H Hc s (.acknowledgement p a π h)).2 = .ok) :
    AckOk H s.core p a π h :=
  deliver_ack_ok H Hc s p a π h hok

/-- Keeper level: any state change by `AcknowledgePacket` presupposes the same. -/
theorem ack_writes_only_after_verification (s : Core) (p : Packet) (a : Data) (π : Proof) (h : Nat)
    (hch : (acknowledgePacket H s p a π h).1 ≠ s ∨ (acknowledgePacket H s p a π h).2 = .ok) :
    AckOk H s p a π h := by
  rcases acknowledgePacket_cases H s p a π h with ⟨hok, _⟩ | ⟨_, e, he⟩
  · exact hok
  · exact (refused_no_effect he hch).elim

/-- After an accepted acknowledgement the commitment is gone. -/
theorem ack_deletes_commitment (s : Core) (p : Packet) (a : Data) :
    (ackWrites H s p a).1.ps.commit p.key = none := by
  rw [ackWrites_eq]; exact upd_same ..

/-- `WriteAcknowledgement` records an acknowledgement only if it is non-empty and none is recorded
    yet; then exactly `H ack` is stored. Otherwise nothing changes. -/
theorem ack_written_nonempty_never_overwritten (s : Core) (p : Packet) (a : Data) :
    (WriteAckOk s p a ∧ a.isEmpty = false ∧ s.ps.ack p.key = none ∧
        (writeAck H s p a).1.ps.ack = upd s.ps.ack p.key (some (H a)) ∧
        (writeAck H s p a).1.ackLog = s.ackLog ++ [(p.key, a)]) ∨
    (¬ WriteAckOk s p a ∧ (writeAck H s p a).1 = s ∧ ∃ e, (writeAck H s p a).2 = .err e) := by
  rcases writeAck_cases H s p a with ⟨hok, e⟩ | ⟨hno, e', e⟩
  · left; rw [e]; exact ⟨hok, hok.1, hok.2.1, rfl, rfl⟩
  · right; rw [e]; exact ⟨hno, rfl, e', rfl⟩

/-- The acknowledgement recorded for a delivered packet is the one the receiving application
    returned: on the destination chain, after the packet-layer checks, `MsgRecvPacket` hands the
    packet to the routed application and passes exactly the bytes `OnRecvPacket` returned to
    `WriteAcknowledgement` (which stores `H` of them, see above). -/
theorem recorded_ack_is_app_ack (s : State) (p : Packet) (π : Proof) (h : Nat) (t : String)
    (c : Core) (a : Apps) (ack : Data)
    (hr : s.core.recvPacket H p π h = (c, .ok)) (hd : p.dst = c.name) (hrt : routed p.port = true)
    (ha : appOnRecv Hc s.apps p t = (a, .ok ack)) :
    (msgRecvPacket H Hc s p π h t).1.core = (c.writeAck H p ack).1 ∧
    (msgRecvPacket H Hc s p π h t).2 = (c.writeAck H p ack).2 := by
  unfold msgRecvPacket
  rw [hr]
  simp [hd, hrt, ha]

/-- **End to end.** In every history of operations on any number of chains, whenever a chain
    accepts an acknowledgement for a packet — directly from the destination or through a relay
    chain — some chain's `WriteAcknowledgement` (the destination's application answering the packet,
    or a relay chain refusing it) recorded an acknowledgement under exactly that
    `(source, destination, sequence)` with the same hash (`H a' = H ack`). -/
theorem ack_accepted_was_written (ops : List Op) (c : Chain) (p : Packet) (a : Data) (π : Proof) (h : Nat)
    (hok : (deliver H Hc ((run H Hc World.init ops) c) (.acknowledgement p a π h)).2 = .ok) :
    ∃ a' x, H a' = H a ∧ (p.key, a') ∈ ((run H Hc World.init ops) x).core.ackLog := by
  obtain ⟨cl, sn, hcl, hcons, hsn⟩ := (deliver_ack_ok H Hc _ p a π h hok).shown
  obtain ⟨a', x, hd, hm⟩ := shown_ack_was_written H Hc ops hcl hcons hsn
  exact ⟨a', x, hd.symm, hm⟩

/-- **Processed at most once.** For every history of operations on any number of chains in which
    no chain is given a light client of itself, on every chain the source application's
    acknowledgement callback (refund or completion) has run at most once per
    `(source, destination, sequence)` — whatever is replayed, in whatever order — and only for
    packets this chain sent. -/
theorem ack_processed_at_most_once (ops : List Op) (hns : ∀ op ∈ ops, op.selfClient = false) (c : Chain) (k : PKey) :
    ackCalls ((run H Hc World.init ops) c) k ≤ 1 ∧ (k.src ≠ c → ackCalls ((run H Hc World.init ops) c) k = 0) := by
  have hinit : ∀ q, AckInv q (World.init q) := by
    intro q
    refine ⟨rfl, rfl, fun k _ => ?_, fun k _ => rfl⟩
    show (if k.seq ≥ 1 then 1 else 0) + 0 + 0 ≤ 1
    split <;> omega
  have hfin := run_inv_on H Hc (P := AckInv) (fun _ _ _ hsc hl => hl.ackInv H Hc hsc) hinit hns c
  refine ⟨?_, hfin.other k⟩
  by_cases hk : k.src = c
  · exact Nat.le_trans (Nat.le_add_left _ _) (hfin.own k hk)
  · rw [hfin.other k hk]; exact Nat.zero_le _

/-- **Store keys of acknowledgements**: one slot per `(source, destination, sequence)`, disjoint
    from commitments and receipts (chain names contain no `/`). -/
theorem ack_key_injective {src src' dst dst' : Str} {n n' : Nat}
    (hs : '/' ∉ src) (hd : '/' ∉ dst) (hs' : '/' ∉ src') (hd' : '/' ∉ dst')
    (h : Host.packetAcknowledgementPath src dst n = Host.packetAcknowledgementPath src' dst' n') :
    src = src' ∧ dst = dst' ∧ n = n' :=
  (Host.seqPath_injective Host.ackPfx_noslash hs hd Host.ackPfx_noslash hs' hd' h).2

theorem ack_key_family_disjoint {src src' dst dst' : Str} {n n' : Nat}
    (hs : '/' ∉ src) (hd : '/' ∉ dst) (hs' : '/' ∉ src') (hd' : '/' ∉ dst') :
    Host.packetAcknowledgementPath src dst n ≠ Host.packetCommitmentPath src' dst' n' ∧
    Host.packetAcknowledgementPath src dst n ≠ Host.packetReceiptPath src' dst' n' :=
  ⟨fun h => absurd (Host.seqPath_injective Host.ackPfx_noslash hs hd Host.commitPfx_noslash hs' hd' h).1 (by decide +kernel),
   fun h => absurd (Host.seqPath_injective Host.ackPfx_noslash hs hd Host.receiptPfx_noslash hs' hd' h).1 (by decide +kernel)⟩

end Tibc.C03
