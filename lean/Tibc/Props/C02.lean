import Tibc.Lemmas.Log
import Tibc.Lemmas.HostKeys
/-
  C02 — Exactly-once delivery per (source, destination, sequence).
-/
namespace Tibc.C02
open Core

variable (H : Data → Digest) (Hc : Str → Str)

/-- number of times the destination application's receive callback ran for key `k` on a chain -/
def deliveries (s : State) (k : PKey) : Nat :=
  (s.cbLog.filter (fun e => e.kind == "recv" && e.key == k)).length

/-- the invariant: a delivered key is protected by its receipt or by the clean point, and was
    delivered exactly once -/
def Inv (s : State) : Prop :=
  ∀ k, deliveries s k ≤ 1 ∧
    (deliveries s k = 1 → s.core.ps.receipt k = true ∨ k.seq ≤ s.core.ps.clean k.pair)

theorem deliveries_append (s : State) (l : List CbEntry) (k : PKey) (t : State) (h : t.cbLog = s.cbLog ++ l) :
    deliveries t k = deliveries s k + (l.filter (fun e => e.kind == "recv" && e.key == k)).length := by
  unfold deliveries; rw [h, List.filter_append, List.length_append]

theorem inv_step (s t : State) (hg : Grow s.core t.core) (hl : LogDelta H s t) (hi : Inv s) : Inv t := by
  intro k
  obtain ⟨h1, h2⟩ := hi k
  -- unless this transition runs the receive callback for `k`, nothing moves
  have keep : deliveries t k = deliveries s k →
      deliveries t k ≤ 1 ∧ (deliveries t k = 1 → t.core.ps.receipt k = true ∨ k.seq ≤ t.core.ps.clean k.pair) :=
    fun e => e ▸ ⟨h1, fun h => hg.stays_protected (h2 h)⟩
  cases hl with
  | same e => exact keep (by unfold deliveries; rw [e])
  | ack p a π h e _ _ _ => exact keep (by rw [deliveries_append s _ k t e]; simp)
  | recv p π h e hok hdst hrc =>
    by_cases hk : p.key = k
    · subst hk
      -- the packet had no receipt and was above the clean point, so it was never delivered before
      obtain ⟨hv, hnr, _⟩ := hok
      have hcl : s.core.ps.clean p.key.pair < p.key.seq := ((validatePacket_ok_iff s.core p).mp hv).2.2
      have h0 : deliveries s p.key = 0 := by
        rcases Nat.lt_or_ge (deliveries s p.key) 1 with hlt | hge
        · omega
        · rcases h2 (by omega) with hr | hc
          · rw [hnr] at hr; cases hr
          · omega
      rw [deliveries_append s _ p.key t e, h0]
      simp
      exact hrc
    · exact keep (by rw [deliveries_append s _ k t e]; simp [hk])

/-- **At most once.** For every history of operations on any number of chains (sends, receives,
    acknowledgements, cleans, receive-cleans, replays, in any order and of any length), on every
    chain the application's receive callback has run at most once per
    `(source, destination, sequence)` — also after the receipt has been cleaned up. -/
theorem deliver_at_most_once (ops : List Op) (c : Chain) (k : PKey) :
    deliveries ((run H Hc World.init ops) c) k ≤ 1 :=
  (run_inv H Hc (P := fun _ => Inv) (fun w op t hl => inv_step H (w op.chain) t (hl.grow H Hc) (hl.log H Hc))
    (fun q k => by simp [deliveries, World.init, State.init]) ops c k).1

/-- An accepted receive (on the next hop) required: no receipt yet and a sequence above the clean
    point — the two facts replay protection rests on. -/
theorem recv_requires_fresh (s : State) (p : Packet) (π : Proof) (h : Nat) (t : String)
    (hok : (deliver H Hc s (.recvPacket p π h t)).2 = .ok) :
    s.core.ps.receipt p.key = false ∧ s.core.ps.clean p.pair < p.seq := by
  have := deliver_recv_ok H Hc s p π h t hok
  exact ⟨this.2.1, ((validatePacket_ok_iff s.core p).mp this.1).2.2⟩

/-- **Liveness half.** A genuinely committed, well-formed packet that has been neither received
    nor cleaned is accepted by the packet layer of its next hop when relayed with the genuine,
    current proof (through a client that is Active): all pre-write checks pass (`RecvOk`), hence `RecvPacket` performs its write
    phase. -/
theorem recv_accepts_live_packet (s : Core) (p : Packet) (h : Nat) (cl : Client) (sn : Snapshot)
    (hbasic : packetBasic p = true)
    (hinvolved : p.relay = s.name ∨ p.dst = s.name ∨ p.src = s.name)
    (hclean : s.ps.clean p.pair < p.seq) (hnr : s.ps.receipt p.key = false)
    (hcl : s.clients (recvProver s p) = some cl) (hact : cl.active s.now = true)
    (hh : h ≤ cl.latest) (hsn : cl.cons h = some sn)
    (hcommitted : sn.commit p.key = some (H p.data)) :
    recvPacket H s p (.honest (recvProver s p) h (.commit p.key)) h = recvWrites H s p :=
  recvPacket_of_ok H
    ⟨(validatePacket_ok_iff s p).mpr ⟨hbasic, hinvolved, hclean⟩, hnr, cl, sn, hcl, hact, hh, hsn, rfl, hcommitted⟩

/-- **Store keys of receipts**: one receipt slot per `(source, destination, sequence)` — the
    receipt of one packet can never be mistaken for (or overwritten by) that of another, nor for a
    commitment or an acknowledgement (chain names contain no `/`). -/
theorem receipt_key_injective {src src' dst dst' : Str} {n n' : Nat}
    (hs : '/' ∉ src) (hd : '/' ∉ dst) (hs' : '/' ∉ src') (hd' : '/' ∉ dst')
    (h : Host.packetReceiptPath src dst n = Host.packetReceiptPath src' dst' n') :
    src = src' ∧ dst = dst' ∧ n = n' :=
  (Host.seqPath_injective Host.receiptPfx_noslash hs hd Host.receiptPfx_noslash hs' hd' h).2

theorem receipt_key_family_disjoint {src src' dst dst' : Str} {n n' : Nat}
    (hs : '/' ∉ src) (hd : '/' ∉ dst) (hs' : '/' ∉ src') (hd' : '/' ∉ dst') :
    Host.packetReceiptPath src dst n ≠ Host.packetCommitmentPath src' dst' n' ∧
    Host.packetReceiptPath src dst n ≠ Host.packetAcknowledgementPath src' dst' n' ∧
    Host.packetReceiptPath src dst n ≠ Host.cleanPacketCommitmentPath src' dst' :=
  ⟨fun h => absurd (Host.seqPath_injective Host.receiptPfx_noslash hs hd Host.commitPfx_noslash hs' hd' h).1 (by decide +kernel),
   fun h => absurd (Host.seqPath_injective Host.receiptPfx_noslash hs hd Host.ackPfx_noslash hs' hd' h).1 (by decide +kernel),
   Host.seqPath_ne_pairPath Host.receiptPfx_noslash hs hd Host.cleanPfx_noslash hs' hd'⟩

end Tibc.C02
