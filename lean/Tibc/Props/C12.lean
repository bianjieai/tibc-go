import Tibc.Lemmas.Routing
/-
  C12 — Routing rules mean exactly field-wise match with '*' wildcards.
-/
namespace Tibc.C12
open Tibc.Routing

/-- A rule set is accepted iff every rule consists of exactly three comma-separated fields, each
    of which is a single `*` or 1–64 characters of the identifier alphabet. -/
theorem rules_accepted_iff (rules : List Str) :
    setRules rules = some rules ↔
      ∀ r ∈ rules, ∃ a b c, splitOnChar ',' r = [a, b, c] ∧
        (∀ f ∈ [a, b, c], f = ['*'] ∨ (1 ≤ f.length ∧ f.length ≤ 64 ∧ ∀ ch ∈ f, isIdChar ch = true)) := by
  simp only [setRules_eq_some, List.all_eq_true, ruleOk_iff, fieldOk_iff, List.forall_mem_cons, List.not_mem_nil,
    false_imp_iff, implies_true, and_true]

/-- A rejected rule set stores nothing (the previous rules stay in force). -/
theorem rules_rejected_none (rules : List Str) (h : ¬ rules.all ruleOk = true) : setRules rules = none :=
  if_neg h

/-- A triple is authorised iff rules are stored and some stored rule has exactly three fields
    each of which is `*` or identical to the corresponding value. -/
theorem authenticate_iff (stored : Option (List Str)) (s d p : Str) :
    authenticate stored s d p = true ↔
      ∃ rules, stored = some rules ∧ ∃ r ∈ rules, ∃ a b c, splitOnChar ',' r = [a, b, c] ∧
        (a = ['*'] ∨ a = s) ∧ (b = ['*'] ∨ b = d) ∧ (c = ['*'] ∨ c = p) := by
  cases stored with
  | none => exact ⟨fun h => Bool.noConfusion h, fun ⟨_, h, _⟩ => (nomatch h)⟩
  | some rules =>
    simp only [authenticate, List.any_eq_true, ruleMatch_iff, fieldMatch_iff, Option.some.injEq, exists_eq_left']

/-- With no rules stored (key absent, or an empty list) nothing is authorised. -/
theorem no_rules_nothing (s d p : Str) :
    authenticate none s d p = false ∧ authenticate (some []) s d p = false := by
  simp [authenticate]

/-- A non-wildcard field matches only the identical string: in particular a field made of
    regular-expression operators is not an expression. (Witnesses of the repaired defect.) -/
example : authenticate (some ["a+,b,c".toList]) "aa".toList "b".toList "c".toList = false := by decide +kernel
example : authenticate (some ["a+,b,c".toList]) "a+".toList "b".toList "c".toList = true := by decide +kernel
example : authenticate (some ["[ab],x,y".toList]) "a".toList "x".toList "y".toList = false := by decide +kernel
example : authenticate (some ["*,b,c".toList]) "x,y".toList "b".toList "c".toList = true := by decide +kernel

end Tibc.C12
