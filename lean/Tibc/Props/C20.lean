import Tibc.Lemmas.Bsc
import Tibc.Routing.Rules
import Tibc.LC.Eth
/-
  C20 — State transitions are deterministic.

  The model's transitions are total functions, so "same state and operation ⇒ same result" holds
  by construction.  What is proved here is the content behind the mechanisms the property names:
  at every point where the Go code ranges over a map or an unsorted collection, the modelled
  outcome does not depend on the order (or multiplicity) in which the collection is presented.
  Runtime sources of nondeterminism (Go map iteration order, clock, temporary files, memory
  addresses) are outside any Lean model; they are searched for by the record / replay stream.
-/
namespace Tibc.C20

section bsc
open BSC

theorem insertAsc_pairwise (a : BSC.Addr) (l : List BSC.Addr) (h : l.Pairwise (· < ·)) :
    (insertAsc a l).Pairwise (· < ·) := by
  fun_induction insertAsc a l with
  | case1 => simp
  | case2 b rest h1 =>
    refine List.pairwise_cons.mpr ⟨fun x hx => ?_, h⟩
    rcases List.mem_cons.mp hx with rfl | hx
    · exact h1
    · exact Nat.lt_trans h1 ((List.pairwise_cons.mp h).1 x hx)
  | case3 rest h1 => exact h
  | case4 b rest h1 h2 ih =>
    have hb := List.pairwise_cons.mp h
    refine List.pairwise_cons.mpr ⟨fun x hx => ?_, ih hb.2⟩
    rcases (mem_insertAsc a x rest).mp hx with rfl | hx
    · exact Nat.lt_of_le_of_ne (Nat.le_of_not_lt h1) (Ne.symm h2)
    · exact hb.1 x hx

theorem vset_pairwise (l : List BSC.Addr) : (vset l).Pairwise (· < ·) := by
  unfold vset
  induction l with
  | nil => simp
  | cons v rest ih => exact insertAsc_pairwise v _ ih

/-- **The validator set in turn order depends only on which addresses are validators** — not on
    the order or multiplicity in which the client state, the epoch header or a Go map lists them
    (`snapshot.validators()` sorts the map's keys). -/
theorem vset_ext (l₁ l₂ : List BSC.Addr) (h : ∀ a, a ∈ l₁ ↔ a ∈ l₂) : vset l₁ = vset l₂ := by
  have p1 := vset_pairwise l₁
  have p2 := vset_pairwise l₂
  have nd : ∀ l : List BSC.Addr, l.Pairwise (· < ·) → l.Nodup := fun l hl =>
    hl.imp (fun hab => Nat.ne_of_lt hab)
  have hp : (vset l₁).Perm (vset l₂) :=
    (List.perm_ext_iff_of_nodup (nd _ p1) (nd _ p2)).mpr (fun a => by rw [mem_vset, mem_vset, h a])
  exact List.Perm.eq_of_pairwise (fun a b _ _ hab hba => absurd hab (Nat.lt_asymm hba)) p1 p2 hp

/-- **Header acceptance does not depend on map iteration order**: two client states that agree
    on everything but present the validators in another order / multiplicity and the recent-signer
    table in another order accept exactly the same headers. -/
theorem bsc_accepts_order_independent (c c' : Client) (h : Hdr)
    (he : c'.epoch = c.epoch) (hl : c'.latest = c.latest)
    (hv : ∀ a, a ∈ c.validators ↔ a ∈ c'.validators) (hr : c.recents.Perm c'.recents) :
    accepts c h = accepts c' h := by
  have hvs : vset c.validators = vset c'.validators := vset_ext _ _ hv
  have hlim : limit c = limit c' := by unfold limit; rw [hvs]
  have hrec : ∀ s, recentlySigned c h.number s = recentlySigned c' h.number s := by
    intro s; unfold recentlySigned; rw [hlim]; exact hr.any_eq
  have hin : ∀ s, inturn c s = inturn c' s := by
    intro s; unfold inturn; simp only [hvs, hl]
  unfold accepts
  have h1 : extraOk c h = extraOk c' h := by unfold extraOk; rw [he]
  have h2 : cascadingOk c h = cascadingOk c' h := by unfold cascadingOk; rw [hl]
  have h3 : BSC.sealOk c h = BSC.sealOk c' h := by
    unfold BSC.sealOk
    cases h.signer with
    | none => rfl
    | some s => simp only [hvs, hrec s, hin s]
  rw [h1, h2, h3]

end bsc

/-- **Routing decisions do not depend on the order in which the rules are stored or iterated.** -/
theorem routing_order_independent (r₁ r₂ : List (List Char)) (s d p : List Char) (h : r₁.Perm r₂) :
    Routing.authenticate (some r₁) s d p = Routing.authenticate (some r₂) s d p :=
  h.any_eq

/-- The ETH client's validity check reads chain time only through the block time it is given:
    (this is what "time taken from the block header only" means for the model: `now` is the sole
    time input of `accepts`, and headers valid at `now` stay valid at any later block time) -/
theorem eth_accepts_monotone_in_time (c : ETH.Client) (h : ETH.Hdr) (now now' : Nat) (hle : now ≤ now')
    (ha : ETH.accepts c h now = true) : ETH.accepts c h now' = true := by
  unfold ETH.accepts at *
  cases hp : ETH.parentOf c h with
  | none => simp [hp] at ha
  | some p =>
    simp only [hp, Bool.and_eq_true, decide_eq_true_eq, and_assoc] at ha ⊢
    obtain ⟨a, b, d, r⟩ := ha
    exact ⟨a, b, Nat.le_trans d (Nat.add_le_add_right hle _), r⟩

/-- Non-vacuity: a permuted, duplicated validator list gives the same turn order. -/
example : BSC.vset [9, 3, 5, 3] = BSC.vset [3, 5, 9] := by decide +kernel

end Tibc.C20
