import Tibc.Lemmas.Origin
import Tibc.Lemmas.HostKeys
/-
  C01 — Inbound packets are authentic: accepted only if the counterparty committed them.
-/
namespace Tibc.C01
open Core

variable (H : Data → Digest) (Hc : Str → Str)

/-- The state of a chain changed by `RecvPacket` (receipt recorded, packet handed on or forwarded)
    only if all pre-write checks passed; in particular the chain the packet must be proven from
    has, in the state its client recorded at the proof height, the commitment `H data` under
    exactly this packet's `(source, destination, sequence)`, and the proof bytes are that chain's
    genuine proof for exactly that key at exactly that height. -/
theorem recv_writes_only_after_verification (s : Core) (p : Packet) (π : Proof) (h : Nat)
    (hch : (recvPacket H s p π h).1 ≠ s ∨ (recvPacket H s p π h).2 = .ok) :
    RecvOk H s p π h := by
  rcases recvPacket_cases H s p π h with ⟨hok, _⟩ | ⟨_, e, _, he⟩
  · exact hok
  · exact (refused_no_effect he hch).elim

/-- Message level: a successful `MsgRecvPacket` implies the same. -/
theorem recv_accepted_committed (s : State) (p : Packet) (π : Proof) (h : Nat) (t : String)
    (hok : (deliver H Hc s (.recvPacket p π h t)).2 = .ok) :
    RecvOk H s.core p π h :=
  deliver_recv_ok H Hc s p π h t hok

/-- A rejected receive changes nothing on the chain (and no other chain is touched at all). -/
theorem recv_rejected_unchanged (w : World) (c : Chain) (p : Packet) (π : Proof) (h : Nat) (t : String)
    (e : Err) (herr : (step H Hc w (.tx c (.recvPacket p π h t))).2 = .err e) :
    (step H Hc w (.tx c (.recvPacket p π h t))).1 = w :=
  step_tx_err H Hc herr

/-- **End to end.** In every history of operations on any number of chains (light clients record,
    at every update, the real state of the chain they track — the ideal boundary justified by
    C07 / C08 / C17 / C18), whenever a chain accepts an inbound packet — directly from the source or
    through a relay chain — the application of the packet's source chain really sent a packet under
    exactly that `(source, destination, sequence)` whose data has the same commitment hash
    (`H data' = H data`: the same data unless the hash collides). -/
theorem recv_accepted_was_sent (ops : List Op) (c : Chain) (p : Packet) (π : Proof) (h : Nat) (t : String)
    (hok : (deliver H Hc ((run H Hc World.init ops) c) (.recvPacket p π h t)).2 = .ok) :
    ∃ data', H data' = H p.data ∧ (p.key, data') ∈ ((run H Hc World.init ops) p.src).core.sent := by
  obtain ⟨cl, sn, hcl, hcons, hsn⟩ := (recv_accepted_committed H Hc _ p π h t hok).shown
  obtain ⟨data', hd, hm⟩ := shown_commit_was_sent H Hc ops hcl hcons hsn
  exact ⟨data', hd.symm, hm⟩

/-- Non-vacuity: a concrete world in which a receive is accepted. -/
def exH : Data → Digest := fun d => match d with | .raw s => s | _ => ""
def exPacket : Packet := { seq := 1, src := "A", dst := "B", relay := "", port := "tibcmock", data := .raw "aa" }
def exOps : List Op :=
  [.createClient "A" "B" 5 100 1000, .createClient "B" "A" 5 100 1000,
   .ksend "A" exPacket, .update "B" "A" 9 110]
def exWorld : World := run exH id World.init exOps

example : (step exH id exWorld (.tx "B" (.recvPacket exPacket (.honest "A" 9 (.commit exPacket.key)) 9 ""))).2 = .ok := by
  decide +kernel

/-- **Store keys of commitments.** The model keeps commitments in a map indexed by
    `(source, destination, sequence)`; in the code they live in one byte-keyed store. For chain
    names without `/` (all that `ValidateBasic` admits) the key builder is injective, so two
    packets share a commitment slot only if they agree on all three — and a commitment key is
    never the key of a receipt, an acknowledgement, a clean point, a highest-acknowledged or a
    next-send counter. (Builders: `Host/Keys`, tied to `24-host/keys.go` by `Expect/Keys` and the
    `keys` stream.) -/
theorem commitment_key_injective {src src' dst dst' : Str} {n n' : Nat}
    (hs : '/' ∉ src) (hd : '/' ∉ dst) (hs' : '/' ∉ src') (hd' : '/' ∉ dst')
    (h : Host.packetCommitmentPath src dst n = Host.packetCommitmentPath src' dst' n') :
    src = src' ∧ dst = dst' ∧ n = n' :=
  (Host.seqPath_injective Host.commitPfx_noslash hs hd Host.commitPfx_noslash hs' hd' h).2

theorem commitment_key_family_disjoint {src src' dst dst' : Str} {n n' : Nat}
    (hs : '/' ∉ src) (hd : '/' ∉ dst) (hs' : '/' ∉ src') (hd' : '/' ∉ dst') :
    Host.packetCommitmentPath src dst n ≠ Host.packetReceiptPath src' dst' n' ∧
    Host.packetCommitmentPath src dst n ≠ Host.packetAcknowledgementPath src' dst' n' ∧
    Host.packetCommitmentPath src dst n ≠ Host.cleanPacketCommitmentPath src' dst' ∧
    Host.packetCommitmentPath src dst n ≠ Host.maxAckSeqPath src' dst' ∧
    Host.packetCommitmentPath src dst n ≠ Host.nextSequenceSendPath src' dst' :=
  ⟨fun h => absurd (Host.seqPath_injective Host.commitPfx_noslash hs hd Host.receiptPfx_noslash hs' hd' h).1 (by decide +kernel),
   fun h => absurd (Host.seqPath_injective Host.commitPfx_noslash hs hd Host.ackPfx_noslash hs' hd' h).1 (by decide +kernel),
   Host.seqPath_ne_pairPath Host.commitPfx_noslash hs hd Host.cleanPfx_noslash hs' hd',
   Host.seqPath_ne_pairPath Host.commitPfx_noslash hs hd Host.maxAckPfx_noslash hs' hd',
   Host.seqPath_ne_pairPath Host.commitPfx_noslash hs hd Host.nextSendPfx_noslash hs' hd'⟩

/-- **Another spelling is another packet.** A receive is accepted only on a proof for the key
    spelled exactly as the packet's own `(source, destination, sequence)`; a packet that differs in
    any of the three — e.g. the same chain name percent-encoded — presented with the proof of the
    original key is refused and changes nothing. (The code agrees since repair b1763c2: before,
    `MerklePath.GetKey` URL-unescaped the key path and `%74estchain0` resolved to `testchain0`'s
    key — found by the `packet` stream, F-C02-pct.) -/
theorem recv_needs_proof_of_own_key (s : State) (p q : Packet) (h : Nat) (t : String) (prover : Chain)
    (hne : q.key ≠ p.key) :
    (deliver H Hc s (.recvPacket q (.honest prover h (.commit p.key)) h t)).2 ≠ .ok ∧
    (deliver H Hc s (.recvPacket q (.honest prover h (.commit p.key)) h t)).1 = s := by
  have hno : (deliver H Hc s (.recvPacket q (.honest prover h (.commit p.key)) h t)).2 ≠ .ok := by
    intro hok
    obtain ⟨_, _, _, _, _, _, _, _, hπ, _⟩ := deliver_recv_ok H Hc s q _ h t hok
    injection hπ with _ _ hk
    injection hk with hk
    exact hne hk.symm
  refine ⟨hno, ?_⟩
  cases hr : (deliver H Hc s (.recvPacket q (.honest prover h (.commit p.key)) h t)).2 with
  | ok => exact absurd hr hno
  | err e => exact deliver_err_unchanged H Hc s _ e hr

end Tibc.C01
