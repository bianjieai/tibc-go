import Tibc.Lemmas.Log
/-
  C13 — A relayer cannot redirect a packet to another port or around its relay chain.

  The property is FALSE of the code (and of the faithful model): the commitment is `H data`
  under the key `(source, destination, sequence)` and binds neither the port nor the relay
  chain. What is proved here is therefore the *negation*, as positive theorems about the model
  with evaluated witnesses; the same histories are replayed on the real chains by the `c13`
  stream and are recorded as known findings (DESIGN §6, F-C13). Everything else about a packet
  IS bound (C01): only these two fields can be edited.
-/
namespace Tibc.C13
open Core

variable (H : Data → Digest)

/-- **Port not bound.** If a receive of `p` passes every packet-layer check, then so does a
    receive of the same packet with any other port: the checks never look at the port. -/
theorem port_not_bound (s : Core) (p : Packet) (π : Proof) (h : Nat) (q : String)
    (hok : RecvOk H s p π h) : RecvOk H s { p with port := q } π h :=
  hok

/-- Same for acknowledgements: the port of the packet presented with an acknowledgement is free. -/
theorem ack_port_not_bound (s : Core) (p : Packet) (a : Data) (π : Proof) (h : Nat) (q : String)
    (hok : AckOk H s p a π h) : AckOk H s { p with port := q } a π h :=
  hok

/-- **Relay chain not bound.** On the destination, a packet that names a relay chain is accepted
    with the relay chain *removed* whenever the destination has a client of the source whose
    recorded state holds the source's commitment — which it always does for a packet the source
    really sent. The relay chain (and its whitelist) is bypassed. -/
theorem relay_not_bound (s : Core) (p : Packet) (h : Nat) (cl : Client) (sn : Snapshot)
    (hv : validatePacket s p = .ok) (hdst : p.dst = s.name) (hr : s.ps.receipt p.key = false)
    (hcl : s.clients p.src = some cl) (hact : cl.active s.now = true) (hle : h ≤ cl.latest) (hsn : cl.cons h = some sn)
    (hc : sn.commit p.key = some (H p.data)) :
    RecvOk H s { p with relay := "" } (.honest p.src h (.commit p.key)) h := by
  have hprover : recvProver s { p with relay := "" } = p.src := by
    unfold recvProver; simp
  obtain ⟨hb, _, hcp⟩ := (validatePacket_ok_iff s p).mp hv
  exact ⟨(validatePacket_ok_iff s _).mpr ⟨hb, .inr (.inl hdst), hcp⟩, hr, cl, sn, by rw [hprover]; exact hcl, hact, hle, hsn,
    by rw [hprover]; rfl, hc⟩

/-- **Relay chain not bound on the way back either.** On the source chain, an acknowledgement
    for a packet it sent is accepted from *any* chain `r` it has an active client of, provided
    `r`'s recorded state holds that acknowledgement under the packet's key: presenting the packet
    with `relay := r` makes `r` the proving chain, and the stored commitment only covers the data.
    (`r` records an error acknowledgement under that key as soon as it is shown the packet with
    `relay := r` and has no routing rule for it — `relay_reject_error_ack`, C11; the consequence
    for tokens is `C04.one_holder_fails_under_relay_edit`.) -/
theorem ack_relay_not_bound (s : Core) (p : Packet) (a : Data) (h : Nat) (r : Chain) (cl : Client) (sn : Snapshot)
    (hv : validatePacket s p = .ok) (hsrc : p.src = s.name) (hr : r ≠ "")
    (hcm : s.ps.commit p.key = some (H p.data))
    (hcl : s.clients r = some cl) (hact : cl.active s.now = true) (hle : h ≤ cl.latest) (hsn : cl.cons h = some sn)
    (hc : sn.ack p.key = some (H a)) :
    AckOk H s { p with relay := r } a (.honest r h (.ack p.key)) h := by
  have hprover : ackProver s { p with relay := r } = r := by
    unfold ackProver; simp [hsrc, hr]
  obtain ⟨hb, _, hcp⟩ := (validatePacket_ok_iff s p).mp hv
  exact ⟨(validatePacket_ok_iff s _).mpr ⟨hb, .inr (.inr hsrc), hcp⟩, hcm, cl, sn, by rw [hprover]; exact hcl, hact, hle, hsn,
    by rw [hprover]; rfl, hc⟩

/-! Evaluated witnesses (the histories replayed on the real chains). -/
def exH : Data → Digest := fun d => match d with | .raw s => s | _ => ""
def pkt : Packet := { seq := 1, src := "A", dst := "C", relay := "R", port := "tibcmock", data := .raw "aa" }
def setup : List Op :=
  [.createClient "A" "R" 5 100 1000, .createClient "R" "A" 5 100 1000, .createClient "R" "C" 5 100 1000,
   .createClient "C" "R" 5 100 1000, .createClient "C" "A" 5 100 1000,
   -- R's whitelist does not allow A -> C
   .setRules "R" ["X,Y,Z".toList],
   .ksend "A" pkt, .update "C" "A" 9 110]
def w0 : World := run exH id World.init setup

/-- the packet named relay chain R; delivered to C directly with the relay field removed and the
    source's own proof, it is accepted — R's whitelist never gets a say -/
example : (step exH id w0 (.tx "C" (.recvPacket { pkt with relay := "" } (.honest "A" 9 (.commit pkt.key)) 9 ""))).2 = .ok := by
  decide +kernel

/-- the same packet redirected to a port without a module is accepted by the packet layer and then
    aborts in routing; redirected to another routed port it is delivered to the wrong application -/
example : (step exH id w0 (.tx "C" (.recvPacket { pkt with relay := "", port := "NFT" } (.honest "A" 9 (.commit pkt.key)) 9 ""))).2
    = .err .unknownRequest := by decide +kernel

end Tibc.C13
