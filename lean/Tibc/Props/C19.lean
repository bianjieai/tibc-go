import Tibc.Lemmas.World
import Tibc.Lemmas.NftSteps
/-
  C19 — Failed messages leave no trace; error acknowledgements leave no token effects.
-/
namespace Tibc.C19
open Core

variable (H : Data → Digest) (Hc : Str → Str)

/-- A TIBC message that returns an error leaves the chain's whole modelled state (packet store,
    clients, token modules, class traces, ghost logs) exactly as it was — and no other chain is
    touched. (`deliver` models BaseApp's branch-and-discard; the content is that the handlers
    hand every error up to it.) -/
theorem failed_msg_unchanged (w : World) (c : Chain) (m : Msg) (e : Err)
    (herr : (step H Hc w (.tx c m)).2 = .err e) : (step H Hc w (.tx c m)).1 = w :=
  step_tx_err H Hc herr

/-- The one path on which the message server swallows an error: a relay chain that will not
    forward a packet (routing rules, unknown destination). The transaction succeeds and records
    exactly the receipt and the error acknowledgement; no commitment, no callback. -/
theorem relay_rejection_records_exactly_receipt_and_ack (s : State) (p : Packet) (π : Proof) (h : Nat) (t : String)
    (hrecv : s.core.recvPacket H p π h = ((s.core.setReceipt p.key).emit (pktEvent "recv_packet" p), .err .unauthorized)) :
    (msgRecvPacket H Hc s p π h t).1.apps = s.apps ∧ (msgRecvPacket H Hc s p π h t).1.cbLog = s.cbLog ∧
    (msgRecvPacket H Hc s p π h t).1.core =
      (((s.core.setReceipt p.key).emit (pktEvent "recv_packet" p)).writeAck H p (.ackErr "756e617574686f72697a6564")).1 := by
  unfold msgRecvPacket
  rw [hrecv]
  exact ⟨rfl, rfl, rfl⟩

/-- NFT: if `OnRecvPacket` answers with an error acknowledgement, token ownership on the
    receiving chain is unchanged, and so is the multi-token module (what may remain is an empty
    voucher class and its class-trace entry — named explicitly: `nft.denom` and `nftTraces` are
    not claimed). -/
theorem nft_error_ack_no_ownership_effect (a : Apps) (p : Packet) (d : NftData) (e : Err)
    (herr : (nftOnRecv Hc a p d).2 = .err e) :
    (nftOnRecv Hc a p d).1.nft.owner = a.nft.owner ∧ (nftOnRecv Hc a p d).1.mt = a.mt := by
  refine ⟨?_, nftOnRecv_mt Hc a p d⟩
  rcases nftOnRecv_cases Hc a p d with h | h | h <;> rw [h] at herr ⊢
  · rcases (nftRecvAway_cases Hc a p d).2 with ⟨hok, _⟩ | ⟨_, ho⟩
    · rw [hok] at herr; cases herr
    · exact ho
  · rw [nftRecvBack_err Hc a d e herr]

end Tibc.C19
