import Tibc.Lemmas.Bsc
/-
  C17 — BSC client follows only a correctly sealed, hash-linked header chain.
-/
namespace Tibc.C17
open Tibc.BSC

/-- size of the current validator set -/
def N (c : Client) : Nat := (vset c.validators).length

def Structural (h : Hdr) : Prop :=
  h.vanityOk = true ∧ h.sealOk = true ∧ h.mixZero = true ∧ h.uncleOk = true ∧ (h.number = 0 ∨ h.difficulty ≠ 0)

/-- validators are listed only on epoch blocks (and then as whole addresses) -/
def EpochExtra (c : Client) (h : Hdr) : Prop :=
  (h.number % c.epoch = 0 → h.extraRem = 0) ∧ (h.number % c.epoch ≠ 0 → h.extraVals = [] ∧ h.extraRem = 0)

/-- direct child of the client's latest header -/
def DirectChild (c : Client) (h : Hdr) : Prop := c.latest.number + 1 = h.number ∧ c.latest.hash = h.parent

def GasOk (c : Client) (h : Hdr) : Prop :=
  h.gasLimit ≤ 2^63 - 1 ∧ h.gasUsed ≤ h.gasLimit ∧
  absDiff c.latest.gasLimit h.gasLimit < c.latest.gasLimit / 256 ∧ 5000 ≤ h.gasLimit

/-- `s` is recorded as the sealer of one of the `floor(N/2)` blocks preceding `number` -/
def SealedRecently (c : Client) (number : Nat) (s : BSC.Addr) : Prop :=
  ∃ seen, (seen, s) ∈ c.recents ∧ seen + N c / 2 ≥ number

/-- it is `s`'s turn for the block after the latest header: `s` is the
    `(number mod N)`-th member of the set in ascending address order -/
def InTurn (c : Client) (s : BSC.Addr) : Prop := (vset c.validators)[(c.latest.number + 1) % N c]? = some s

theorem validateBasic_iff (h : Hdr) : validateBasic h = true ↔ Structural h := by
  unfold validateBasic Structural
  simp only [Bool.and_eq_true, Bool.or_eq_true, beq_iff_eq, bne_iff_ne, and_assoc]

theorem extraOk_iff (c : Client) (h : Hdr) : extraOk c h = true ↔ EpochExtra c h := by
  unfold extraOk EpochExtra signersBytes
  by_cases he : h.number % c.epoch = 0
  · simp [he]
  · simp only [beq_iff_eq, he, if_false, false_implies, true_and, ne_eq, not_false_eq_true, true_implies,
      ← List.length_eq_zero_iff]
    omega

theorem cascadingOk_iff (c : Client) (h : Hdr) : cascadingOk c h = true ↔ DirectChild c h ∧ GasOk c h := by
  unfold cascadingOk DirectChild GasOk maxGasLimit gasLimitBoundDivisor minGasLimit
  simp only [Bool.and_eq_true, beq_iff_eq, decide_eq_true_eq, and_assoc]

theorem recentlySigned_iff (c : Client) (number : Nat) (s : BSC.Addr) :
    recentlySigned c number s = true ↔ SealedRecently c number s := by
  unfold recentlySigned SealedRecently limit N
  simp only [List.any_eq_true, Bool.and_eq_true, Bool.or_eq_true, beq_iff_eq, decide_eq_true_eq, Prod.exists]
  constructor
  · rintro ⟨seen, _, hm, rfl, h2⟩; exact ⟨seen, hm, by omega⟩
  · rintro ⟨seen, hm, h3⟩; exact ⟨seen, s, hm, rfl, by omega⟩

theorem inturn_iff (c : Client) (s : BSC.Addr) : inturn c s = true ↔ InTurn c s :=
  beq_iff_eq

/-- **Accept iff the rule holds.** The BSC client accepts a header exactly when it is the direct
    child of its latest header, is sealed (signature recovers to the coinbase) by a member of the
    current validator set who is not recorded as sealer of any of the preceding floor(N/2) blocks,
    carries the difficulty matching that validator's turn, keeps the gas limits within bounds, lists
    validators only on epoch blocks, and passes the stateless structural checks. -/
theorem bsc_accept_iff (c : Client) (h : Hdr) :
    (∃ c', checkHeaderAndUpdate c h = some c') ↔
      Structural h ∧ EpochExtra c h ∧ DirectChild c h ∧ GasOk c h ∧
      ∃ s, h.signer = some s ∧ s = h.coinbase ∧ s ∈ c.validators ∧ ¬ SealedRecently c h.number s ∧
        (InTurn c s → h.difficulty = 2) ∧ (¬ InTurn c s → h.difficulty = 1) := by
  simp only [checkHeaderAndUpdate_eq_some, exists_and_left, accepts, Bool.and_eq_true,
    validateBasic_iff, extraOk_iff, cascadingOk_iff, and_assoc]
  refine and_congr_right fun _ => and_congr_right fun _ => and_congr_right fun _ => and_congr_right fun _ => ?_
  unfold BSC.sealOk
  cases h.signer with
  | none => simp
  | some s =>
    simp only [Option.some.injEq, exists_eq_left', Bool.and_eq_true, beq_iff_eq, List.contains_iff_mem, mem_vset, Bool.not_eq_true',
      ← Bool.not_eq_true, recentlySigned_iff, and_assoc]
    refine and_congr_right fun _ => and_congr_right fun _ => and_congr_right fun _ => ?_
    by_cases ht : InTurn c s
    · simp [(inturn_iff c s).mpr ht, ht]
    · simp [mt (inturn_iff c s).mp ht, ht]

/-- **Effect of acceptance.** The latest header is the accepted header, the consensus state for
    its height is that header's (time, number, root), consensus states of other heights and the
    epoch length are untouched, the sealer is recorded, the set announced at an epoch block becomes
    the pending set, and the validator set changes only on the block whose number is
    `floor(len/2)` past an epoch block — to the pending set. -/
theorem bsc_accept_effect (c c' : Client) (h : Hdr) (hok : checkHeaderAndUpdate c h = some c') :
    c'.latest = h ∧ c'.cons h.number = some ⟨h.time, h.number, h.root⟩ ∧
    (∀ n, n ≠ h.number → c'.cons n = c.cons n) ∧ c'.epoch = c.epoch ∧
    c'.pending = (if h.number % c.epoch = 0 then h.extraVals else c.pending) ∧
    c'.validators = (if h.number % c.epoch = c.validators.length / 2 then c'.pending else c.validators) := by
  obtain ⟨_, s, _, rfl⟩ := checkHeaderAndUpdate_eq_some.mp hok
  exact ⟨rfl, upd_same .., fun n hn => upd_other _ _ _ _ hn, rfl, by simp only [update, beq_iff_eq],
    by simp only [update, beq_iff_eq]⟩

theorem accepted_number {c c' : Client} {h : Hdr} (hok : checkHeaderAndUpdate c h = some c') :
    c'.latest.number = c.latest.number + 1 := by
  rw [(bsc_accept_effect c c' h hok).1, ((bsc_accept_iff c h).mp ⟨c', hok⟩).2.2.1.1]

theorem accepted_sealer_recorded (c c' : Client) (h : Hdr) (s : BSC.Addr) (hs : h.signer = some s)
    (hok : checkHeaderAndUpdate c h = some c') : (h.number, s) ∈ c'.recents := by
  obtain ⟨_, s', hs', rfl⟩ := checkHeaderAndUpdate_eq_some.mp hok
  cases hs.symm.trans hs'
  exact mem_update_recents (.inl rfl) (Nat.le_add_right ..)

/-- an entry of the recent-sealer table inside the window of the set in force after the header
    survives its acceptance -/
theorem recent_kept {c c' : Client} {h : Hdr} {e : Nat × BSC.Addr} (hok : checkHeaderAndUpdate c h = some c')
    (hm : e ∈ c.recents) (hb : e.1 < h.number) (hw : h.number ≤ e.1 + N c' / 2) : e ∈ c'.recents := by
  obtain ⟨_, s, _, rfl⟩ := checkHeaderAndUpdate_eq_some.mp hok
  exact mem_update_recents (.inr ⟨hm, Nat.ne_of_lt hb⟩) hw

/-- all of `hs` are accepted one after the other -/
def followAll (c : Client) : List Hdr → Option Client
  | [] => some c
  | h :: rest => (checkHeaderAndUpdate c h).bind (fun c1 => followAll c1 rest)

theorem followAll_induct {P : Nat → Client → Prop}
    (step : ∀ k c h c', checkHeaderAndUpdate c h = some c' → P k c → P (k + 1) c')
    (hs : List Hdr) (k : Nat) (c c' : Client) (hrun : followAll c hs = some c') (hp : P k c) : P (k + hs.length) c' := by
  fun_induction followAll c hs generalizing k with
  | case1 c => cases hrun; exact hp
  | case2 c h rest ih =>
    obtain ⟨c1, h1, hrest⟩ := Option.bind_eq_some_iff.mp hrun
    rw [List.length_cons, ← Nat.add_assoc, Nat.add_right_comm]
    exact ih c1 (k + 1) hrest (step k c h c1 h1 hp)

/-- **Rotation takes effect exactly floor(N/2) blocks after the epoch block.** Starting at an
    epoch block `a` that announces `a.extraVals` while the stored set has `len` members
    (`len/2 < epoch`): through the first `len/2` accepted headers (the epoch block and the
    `len/2 - 1` after it) the validator set is unchanged and the announced set is pending; the
    `(len/2 + 1)`-th accepted header — number `epoch block + len/2` — installs exactly the announced
    set, so the blocks after it are checked against it. -/
theorem rotation_exact (c : Client) (a : Hdr) (rest : List Hdr) (c' : Client)
    (he : (c.latest.number + 1) % c.epoch = 0)
    (hN : c.validators.length / 2 < c.epoch)
    (hrun : followAll c (a :: rest) = some c') :
    (rest.length + 1 ≤ c.validators.length / 2 → c'.validators = c.validators ∧ c'.pending = a.extraVals) ∧
    (rest.length = c.validators.length / 2 → c'.validators = a.extraVals) := by
  obtain ⟨c1, ha, hrest⟩ := Option.bind_eq_some_iff.mp hrun
  -- after the epoch block and `k` further headers, up to the switch; the `if` is that of `bsc_accept_effect`
  let P (k : Nat) (x : Client) : Prop :=
    x.epoch = c.epoch ∧ x.latest.number = c.latest.number + 1 + k ∧
    (k ≤ c.validators.length / 2 → x.pending = a.extraVals ∧
      x.validators = if k = c.validators.length / 2 then a.extraVals else c.validators)
  have h0 : P 0 c1 := by
    obtain ⟨hl, _, _, hep, hpend, hvals⟩ := bsc_accept_effect c c1 a ha
    have hn := accepted_number ha
    rw [← hn, hl] at he
    rw [he, if_pos rfl] at hpend
    rw [he, hpend] at hvals
    exact ⟨hep, hn, fun _ => ⟨hpend, hvals⟩⟩
  have step : ∀ k x b x', checkHeaderAndUpdate x b = some x' → P k x → P (k + 1) x' := by
    intro k x b x' hb ⟨hep, hnum, hle⟩
    obtain ⟨hl, _, _, hep', hpend, hvals⟩ := bsc_accept_effect x x' b hb
    have hn := accepted_number hb
    refine ⟨hep'.trans hep, by rw [hn, hnum]; rfl, fun hk => ?_⟩
    obtain ⟨hp, hv⟩ := hle (Nat.le_of_succ_le hk)
    rw [if_neg (Nat.ne_of_lt hk)] at hv
    have hmod : b.number % c.epoch = k + 1 := by
      rw [← hl, hn, hnum, Nat.add_assoc, Nat.add_mod, he, Nat.zero_add, Nat.mod_mod,
        Nat.mod_eq_of_lt (Nat.lt_of_le_of_lt hk hN)]
    rw [hep, hmod, if_neg (Nat.succ_ne_zero k), hp] at hpend
    rw [hep, hmod, hv, hpend] at hvals
    exact ⟨hpend, hvals⟩
  have := (followAll_induct step rest 0 c1 c' hrest h0).2.2
  rw [Nat.zero_add] at this
  refine ⟨fun h => ?_, fun h => ?_⟩
  · obtain ⟨hp, hv⟩ := this (Nat.le_of_succ_le h)
    rw [if_neg (Nat.ne_of_lt h)] at hv; exact ⟨hv, hp⟩
  · rw [(this (Nat.le_of_eq h)).2, if_pos h]

/-- a run of accepted headers, all of which leave the validator set equal to `V` -/
def followStable (V : List BSC.Addr) (c : Client) : List Hdr → Option Client
  | [] => some c
  | h :: rest =>
    match checkHeaderAndUpdate c h with
    | some c1 => if c1.validators = V then followStable V c1 rest else none
    | none => none

theorem followStable_induct {V : List BSC.Addr} {P : Client → Prop}
    (step : ∀ c h c', checkHeaderAndUpdate c h = some c' → c'.validators = V → P c → P c')
    (hs : List Hdr) (c c' : Client) (hrun : followStable V c hs = some c') (hp : P c) : P c' := by
  fun_induction followStable V c hs with
  | case1 c => cases hrun; exact hp
  | case2 c h rest c1 h1 hV ih => exact ih hrun (step c h c1 h1 hV hp)
  | case3 c h rest c1 h1 hV => cases hrun
  | case4 c h rest h1 => cases hrun

/-- **Nobody seals twice within floor(N/2)+1 consecutive blocks**, over header histories of any
    length during which the validator set is `V` (N = |V|): if `hi` (sealed by `s`) was accepted,
    then any number of further headers, then `hj` with `hj.number ≤ hi.number + N/2` is accepted,
    the sealer of `hj` is not `s`. -/
theorem no_reseal_within_window (V : List BSC.Addr) (c0 c1 c2 c3 : Client) (hi hj : Hdr) (mid : List Hdr)
    (s s' : BSC.Addr)
    (h1 : checkHeaderAndUpdate c0 hi = some c1) (hs : hi.signer = some s) (hV : c1.validators = V)
    (hmid : followStable V c1 mid = some c2)
    (h3 : checkHeaderAndUpdate c2 hj = some c3) (hs' : hj.signer = some s')
    (hwin : hj.number ≤ hi.number + (vset V).length / 2) :
    s' ≠ s := by
  -- while the latest header is inside the window of `hi`, the entry of `hi` is in the table
  let W (c : Client) : Prop := c.validators = V ∧ hi.number ≤ c.latest.number ∧
    (c.latest.number ≤ hi.number + (vset V).length / 2 → (hi.number, s) ∈ c.recents)
  have hW1 : W c1 := ⟨hV, Nat.le_of_eq (by rw [(bsc_accept_effect c0 c1 hi h1).1]),
    fun _ => accepted_sealer_recorded c0 c1 hi s hs h1⟩
  have step : ∀ c h c', checkHeaderAndUpdate c h = some c' → c'.validators = V → W c → W c' := by
    intro c h c' hok hV' ⟨_, hle, hin⟩
    have hn := accepted_number hok
    have hl := (bsc_accept_effect c c' h hok).1
    refine ⟨hV', by omega, fun hw => recent_kept hok (hin (by omega)) (by rw [← hl]; omega) ?_⟩
    unfold N; rw [hV', ← hl]; exact hw
  obtain ⟨hV2, _, hin⟩ := followStable_induct step mid c1 c2 hmid hW1
  obtain ⟨_, _, ⟨hch, _⟩, _, s'', hs'', _, _, hnot, _⟩ := (bsc_accept_iff c2 hj).mp ⟨c3, h3⟩
  cases hs'.symm.trans hs''
  rintro rfl
  exact hnot ⟨hi.number, hin (by omega), by unfold N; rw [hV2]; omega⟩

/-- Non-vacuity: a three-validator client accepts the in-turn child of its latest header. -/
def exLatest : Hdr :=
  { number := 8, parent := "p", hash := "h8", coinbase := 5, signer := some 5, difficulty := 2, gasLimit := 30000000,
    gasUsed := 0, time := 100, root := "r8", extraVals := [3, 5, 9], extraRem := 0, vanityOk := true, sealOk := true,
    mixZero := true, uncleOk := true }
def exClient : Client :=
  { epoch := 8, latest := exLatest, validators := [3, 5, 9], recents := [(7, 3), (8, 9)], pending := [3, 5, 9], cons := fun _ => none }
def exHdr : Hdr :=
  { number := 9, parent := "h8", hash := "h9", coinbase := 3, signer := some 3, difficulty := 2, gasLimit := 30000001,
    gasUsed := 21000, time := 103, root := "r9", extraVals := [], extraRem := 0, vanityOk := true, sealOk := true,
    mixZero := true, uncleOk := true }
example : (checkHeaderAndUpdate exClient exHdr).isSome = true := by decide +kernel
/-- …and refuses the same header sealed by the validator that sealed the previous block -/
example : (checkHeaderAndUpdate exClient { exHdr with coinbase := 9, signer := some 9, difficulty := 1 }).isSome = false := by decide +kernel

end Tibc.C17
