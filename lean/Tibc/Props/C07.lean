import Tibc.Lemmas.TmCommit
/-
  C07 — Tendermint client accepts a header exactly when the light-client rule allows it.
-/
namespace Tibc.C07
open Tibc.TM

variable (Hv : List Val → Digest)

/-- "more than `needed` of the header's own validator set signed", as cometbft decides it:
    commit and set have the same length and the shortest prefix of commit-flagged entries whose
    power exceeds the threshold is all validly signed -/
def OwnSetSigned (vals : List Val) (commit : List CSig) : Prop :=
  vals.length = commit.length ∧
  ∃ k, 1 ≤ k ∧ k ≤ (counted vals commit).length ∧ (∀ x ∈ (counted vals commit).take k, x.2 = true) ∧
    sumPow ((counted vals commit).take k) > totalPower vals * 2 / 3

theorem verifyCommitLight_iff (vals : List Val) (commit : List CSig) :
    verifyCommitLight vals commit = true ↔ OwnSetSigned vals commit := by
  unfold verifyCommitLight OwnSetSigned
  rw [Bool.and_eq_true, scanByIndex_eq, scanC_iff _ _ 0 (Nat.zero_le _), beq_iff_eq]
  simp only [Nat.zero_add]

/-- **Accept iff the rule holds.** A Tendermint client update is accepted if and only if:
    the client is Active (its newest consensus state exists and is inside the trusting period);
    a consensus state is stored at the header's trusted height; the supplied trusted validators
    hash to the next-validators hash that state committed to; header and trusted height are in
    the same revision and the header is strictly newer; that trusted state is itself inside the
    trusting period; the header time is after the trusted state's and before now + clock drift;
    the shipped validator set hashes to the header's validators hash; for an adjacent header the
    validators are the committed next validators, for a non-adjacent one more than the trust level
    of the trusted set signed; more than two thirds of the header's own set signed; and the
    structural validations pass. -/
theorem tm_accept_iff (cl : Client) (hdr : Header) (now : Nat) :
    (∃ cl', updateClient Hv cl hdr now = .ok cl') ↔
      status cl now = .active ∧
      ∃ tc, cl.cons hdr.trustedHeight = some tc ∧
        Hv hdr.trustedVals = tc.nextVals ∧
        hdr.height.rev = hdr.trustedHeight.rev ∧
        hdr.basicOk = true ∧
        hdr.height.le hdr.trustedHeight = false ∧
        tc.time + cl.period > now ∧
        hdr.height.h > hdr.trustedHeight.h ∧ hdr.time > tc.time ∧ hdr.time < now + cl.drift ∧
        hdr.valsHash = Hv hdr.vals ∧
        (if hdr.height.h = hdr.trustedHeight.h + 1 then hdr.valsHash = tc.nextVals
         else verifyCommitLightTrusting hdr.trustedVals hdr.commit cl.trustNum cl.trustDen = true) ∧
        OwnSetSigned hdr.vals hdr.commit := by
  simp only [updateClient_eq_ok, exists_and_left, ← verifyCommitLight_iff, ← checkValidity_iff]
  refine and_congr_right fun _ => ?_
  unfold checkHeaderAndUpdate
  cases cl.cons hdr.trustedHeight with
  | none => simp
  | some tc => cases checkValidity Hv cl tc hdr now <;> simp

/-- On acceptance the consensus state stored for the header's height is the header's time, app
    hash and next-validators hash, and the latest height is the maximum of the old one and the
    header's. On rejection the result carries no state at all (`Except.error`): nothing changes. -/
theorem tm_accept_effect (cl cl' : Client) (hdr : Header) (now : Nat)
    (h : updateClient Hv cl hdr now = .ok cl') :
    cl'.cons hdr.height = some ⟨hdr.time, hdr.appHash, hdr.nextValsHash⟩ ∧
    cl'.processed hdr.height = some now ∧
    (cl'.latest = cl.latest ∨ (cl'.latest = hdr.height ∧ cl.latest.lt hdr.height = true)) := by
  have hc := ((updateClient_eq_ok Hv).mp h).2
  revert hc
  fun_cases checkHeaderAndUpdate Hv cl hdr now with
  | case1 | case2 => nofun
  | case3 tc htc hcv cl1 =>
    rintro ⟨⟩
    -- `cl1` is the client after pruning, which does not touch `latest`
    have hl : cl1.latest = cl.latest := by
      dsimp only [cl1]
      split
      · rfl
      · split
        · rfl
        · split <;> rfl
    refine ⟨upd_same .., upd_same .., ?_⟩
    show (if cl1.latest.lt hdr.height then hdr.height else cl1.latest) = cl.latest ∨ _
    rw [hl]
    cases cl.latest.lt hdr.height <;> simp


/-- The latest height never decreases, over any sequence of update attempts (accepted or not). -/
theorem tm_latest_monotone (cl : Client) (upds : List (Header × Nat)) :
    let final := upds.foldl (fun c (x : Header × Nat) => match updateClient Hv c x.1 x.2 with | .ok c' => c' | .error _ => c) cl
    final.latest = cl.latest ∨ cl.latest.lt final.latest = true := by
  induction upds generalizing cl with
  | nil => exact Or.inl rfl
  | cons x rest ih =>
    simp only [List.foldl_cons]
    cases hu : updateClient Hv cl x.1 x.2 with
    | error e => exact ih cl
    | ok c' =>
      rcases (tm_accept_effect Hv cl c' x.1 x.2 hu).2.2 with h2 | ⟨h2, h3⟩
      · rw [← h2]; exact ih c'
      · rcases ih c' with h1 | h1
        · right; rw [h1, h2]; exact h3
        · right; exact Height.lt_trans h3 (h2 ▸ h1)

/-- Non-vacuity: a two-validator chain, an adjacent header signed by both. -/
def exHv (vs : List Val) : Digest := String.intercalate "," (vs.map (fun v => v.addr))
def exVals : List Val := [⟨"a", 3⟩, ⟨"b", 1⟩]
def exClient : Client :=
  { trustNum := 1, trustDen := 3, period := 1000, drift := 10, latest := ⟨1, 5⟩,
    cons := fun h => if h = ⟨1, 5⟩ then some ⟨100, "r", exHv exVals⟩ else none,
    heights := [⟨1, 5⟩], processed := fun _ => none }
def exHeader : Header :=
  { height := ⟨1, 6⟩, time := 150, appHash := "x", valsHash := exHv exVals, nextValsHash := exHv exVals,
    vals := exVals, commit := [⟨.commit, "a", true⟩, ⟨.absent, "b", false⟩],
    trustedHeight := ⟨1, 5⟩, trustedVals := exVals, basicOk := true }
example : (match updateClient exHv exClient exHeader 200 with | .ok _ => true | .error _ => false) = true := by
  decide +kernel

end Tibc.C07
