/-
  Base definitions shared by the whole TIBC model (core Lean only, no Mathlib).
-/
namespace Tibc

abbrev Chain  := String
/-- output of the commitment hash -/
abbrev Digest := String
abbrev Addr   := String
/-- text whose exact characters matter (class ids, class paths, routing rules) -/
abbrev Str    := List Char

/-- Go `strings.Split(s, sep)` for a one-character separator: keeps empty fields, never `[]` -/
def splitOnChar (sep : Char) : Str → List Str
  | [] => [[]]
  | c :: cs =>
    if c = sep then [] :: splitOnChar sep cs
    else match splitOnChar sep cs with
      | [] => [[c]]          -- unreachable: the result is never empty
      | f :: fs => (c :: f) :: fs

/-- Go `strings.Join(parts, sep)` -/
def joinWith (sep : Char) : List Str → Str
  | [] => []
  | [x] => x
  | x :: y :: rest => x ++ sep :: joinWith sep (y :: rest)

/-- Go `strings.HasPrefix` -/
def hasPrefix (pre s : Str) : Bool := pre.isPrefixOf s

/-- decoded TICS-30 NFT packet data (`NonFungibleTokenPacketData`) -/
structure NftData where
  cls      : Str        -- full class path
  id       : Str
  uri      : String
  sender   : Addr
  receiver : Addr
  away     : Bool
  destContract : String
deriving DecidableEq, Repr

/-- decoded multi-token packet data (`MultiTokenPacketData`) -/
structure MtData where
  cls      : Str
  id       : Str
  data     : String
  sender   : Addr
  receiver : Addr
  away     : Bool
  destContract : String
  amount   : Nat
deriving DecidableEq, Repr

/-- Byte strings that get hashed into the provable store: packet payloads and acknowledgements.
    They are kept structured (the protobuf codec is outside the model): a payload either decodes
    as NFT data, as MT data, or is `raw` bytes that decode as neither; an acknowledgement is
    `ackOk`/`ackErr` (the `Acknowledgement` message) or `raw`. `raw ""` is the empty string. -/
inductive Data
  | raw (s : String)
  | nft (d : NftData)
  | mt  (d : MtData)
  | ackOk (res : String)
  | ackErr (text : String)
deriving DecidableEq, Repr

def Data.isEmpty : Data → Bool
  | .raw s => s == ""
  | _ => false

instance : Inhabited Data := ⟨.raw ""⟩

/-- total-function store with point update -/
def upd {κ : Type} {α : Type} [DecidableEq κ] (m : κ → α) (k : κ) (v : α) : κ → α :=
  fun k' => if k' = k then v else m k'

@[simp] theorem upd_same {κ α} [DecidableEq κ] (m : κ → α) (k : κ) (v : α) :
    upd m k v k = v := by simp [upd]

@[simp] theorem upd_other {κ α} [DecidableEq κ] (m : κ → α) (k k' : κ) (v : α) (h : k' ≠ k) :
    upd m k v k' = m k' := by simp [upd, h]

theorem upd_apply {κ α} [DecidableEq κ] (m : κ → α) (k k' : κ) (v : α) :
    upd m k v k' = if k' = k then v else m k' := rfl

theorem upd_self {κ α} [DecidableEq κ] (m : κ → α) (k : κ) : upd m k (m k) = m := by
  funext k'; rw [upd_apply]; split
  · rename_i h; rw [h]
  · rfl

theorem upd_upd {κ α} [DecidableEq κ] (m : κ → α) (k : κ) (v v' : α) : upd (upd m k v) k v' = upd m k v' := by
  funext k'; simp only [upd_apply]; split <;> rfl

theorem upd_comm {κ α} [DecidableEq κ] (m : κ → α) {k k' : κ} (h : k ≠ k') (v v' : α) :
    upd (upd m k v) k' v' = upd (upd m k' v') k v := by
  funext x
  simp only [upd_apply]
  by_cases hx : x = k'
  · rw [if_pos hx, if_pos hx, if_neg (hx ▸ Ne.symm h)]
  · rw [if_neg hx, if_neg hx]

theorem upd_eq_some {κ α} [DecidableEq κ] {m : κ → Option α} {k k' : κ} {o : Option α} {x : α}
    (h : upd m k o k' = some x) : (k' = k ∧ o = some x) ∨ (k' ≠ k ∧ m k' = some x) := by
  rw [upd_apply] at h
  by_cases e : k' = k
  · rw [if_pos e] at h; exact .inl ⟨e, h⟩
  · rw [if_neg e] at h; exact .inr ⟨e, h⟩

theorem append_nil_ext {α : Type} (l : List α) : ∃ l', l = l ++ l' := ⟨[], (List.append_nil l).symm⟩

theorem le_upd {κ : Type} [DecidableEq κ] {m : κ → Nat} {k : κ} {n : Nat} (h : m k ≤ n) (k' : κ) :
    m k' ≤ upd m k n k' := by
  rw [upd_apply]; split
  · rename_i e; rw [e]; exact h
  · exact Nat.le_refl _

theorem ite_iff_congr {α : Type} {p q : Prop} [Decidable p] [Decidable q] (h : p ↔ q) (a b : α) :
    (if p then a else b) = (if q then a else b) := by
  by_cases hp : p
  · rw [if_pos hp, if_pos (h.mp hp)]
  · rw [if_neg hp, if_neg (fun hq => hp (h.mpr hq))]

/-- `(source, destination, sequence)` : the identity of a packet in every store -/
structure PKey where
  src : Chain
  dst : Chain
  seq : Nat
deriving DecidableEq, Repr

/-- `(source, destination)` : a "channel" -/
structure Pair where
  src : Chain
  dst : Chain
deriving DecidableEq, Repr

def PKey.pair (k : PKey) : Pair := ⟨k.src, k.dst⟩

/-- A collision of the commitment hash, exhibited by two concrete pre-images. -/
def Collision (H : Data → Digest) : Prop := ∃ a b, a ≠ b ∧ H a = H b

theorem eq_or_collision (H : Data → Digest) {a b : Data} (h : H a = H b) :
    a = b ∨ Collision H := by
  by_cases hab : a = b
  · exact Or.inl hab
  · exact Or.inr ⟨a, b, hab, h⟩

/-- Error classes (keyed on the Go error's registered codespace/code, never on text). -/
inductive Err
  | invalidPacket        -- tibc-packet/5
  | invalidAck           -- tibc-packet/6
  | ackExists            -- tibc-packet/9
  | invalidClean         -- tibc-packet/10
  | clientNotFound       -- tibc-client/4
  | clientNotActive      -- tibc-client/27
  | clientExists         -- tibc-client/2
  | invalidClientType    -- tibc-client/10
  | unauthorized         -- sdk/4
  | invalidRoute         -- tibc-routing/2
  | invalidRule          -- tibc-routing/3
  | verify               -- any failure inside the light client's Verify* method
  | invalidProof         -- tibc-commitment/2 (stateless: empty proof)
  | invalidHeight        -- sdk/26 (stateless: zero proof height)
  | invalidAddress       -- sdk/7
  | unknownRequest       -- sdk/6 (payload cannot be decoded)
  | app (s : String)     -- application-level error class
  | panic                -- Go runtime panic recovered by BaseApp
deriving DecidableEq, Repr

def Err.toString : Err → String
  | .invalidPacket => "invalidPacket"
  | .invalidAck => "invalidAck"
  | .ackExists => "ackExists"
  | .invalidClean => "invalidClean"
  | .clientNotFound => "clientNotFound"
  | .clientNotActive => "clientNotActive"
  | .clientExists => "clientExists"
  | .invalidClientType => "invalidClientType"
  | .unauthorized => "unauthorized"
  | .invalidRoute => "invalidRoute"
  | .invalidRule => "invalidRule"
  | .verify => "verify"
  -- the stateless proof / height checks share their (codespace, code) with failures inside
  -- the light client's Verify* methods, so they are reported under the same class
  | .invalidProof => "verify"
  | .invalidHeight => "verify"
  | .invalidAddress => "invalidAddress"
  | .unknownRequest => "unknownRequest"
  | .app s => "app:" ++ s
  | .panic => "panic"

/-- result of a keeper call: the state is returned separately so partial writes stay visible -/
inductive Res
  | ok
  | err (e : Err)
deriving DecidableEq, Repr

def Res.isOk : Res → Bool
  | .ok => true
  | .err _ => false

def Res.toString : Res → String
  | .ok => "ok"
  | .err e => e.toString

end Tibc
