import Tibc.Props.C06
import Tibc.Expect.Packet
#print axioms Tibc.C06.back_away_base
#print axioms Tibc.C06.back_away_path
#print axioms Tibc.C06.parse_full
#print axioms Tibc.C06.native_class_consistent
#print axioms Tibc.C06.nft_refund_exact
#print axioms Tibc.C06.nft_round_trip_restores
#print axioms Tibc.C06.refund_although_delivered
