import Tibc.Props.C17
import Tibc.Expect.Bsc
#print axioms Tibc.C17.validateBasic_iff
#print axioms Tibc.C17.extraOk_iff
#print axioms Tibc.C17.cascadingOk_iff
#print axioms Tibc.C17.recentlySigned_iff
#print axioms Tibc.C17.inturn_iff
#print axioms Tibc.C17.bsc_accept_iff
#print axioms Tibc.C17.bsc_accept_effect
#print axioms Tibc.C17.accepted_number
#print axioms Tibc.C17.accepted_sealer_recorded
#print axioms Tibc.C17.recent_kept
#print axioms Tibc.C17.followAll_induct
#print axioms Tibc.C17.rotation_exact
#print axioms Tibc.C17.followStable_induct
#print axioms Tibc.C17.no_reseal_within_window
