import Tibc.Props.C16
import Tibc.Expect.Packet
import Tibc.Expect.Keys
#print axioms Tibc.C16.packet_reimport_partial
#print axioms Tibc.C16.packet_reimport_exact_iff
#print axioms Tibc.C16.core_reimport
#print axioms Tibc.C16.clean_point_lost
#print axioms Tibc.C16.traces_lost
#print axioms Tibc.C16.digit_step
#print axioms Tibc.C16.be8_mod
#print axioms Tibc.C16.be8_roundtrip
#print axioms Tibc.C16.be8_length
#print axioms Tibc.C16.stripPrefix_append
#print axioms Tibc.C16.cutSlash_append
#print axioms Tibc.C16.parseConsKey_frame
#print axioms Tibc.C16.parse_consKey
#print axioms Tibc.C16.processedKey_not_cons
#print axioms Tibc.C16.export_reads_seq_keys
#print axioms Tibc.C16.export_reads_pair_keys
