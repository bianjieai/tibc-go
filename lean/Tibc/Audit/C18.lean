import Tibc.Props.C18
import Tibc.Expect.Eth
#print axioms Tibc.C18.eth_accepts_iff
#print axioms Tibc.C18.eth_known_header_refused
#print axioms Tibc.C18.eth_unknown_parent_refused
#print axioms Tibc.C18.eth_accepted_valid
#print axioms Tibc.C18.rewrite_latest
#print axioms Tibc.C18.eth_accept_effect
#print axioms Tibc.C18.baseFee_at_target
#print axioms Tibc.C18.baseFee_above_target
#print axioms Tibc.C18.baseFee_below_target
#print axioms Tibc.C18.difficulty_at_least_minimum
#print axioms Tibc.C18.created_inv
#print axioms Tibc.C18.one_chain_step
#print axioms Tibc.C18.one_chain
#print axioms Tibc.C18.same_root_breaks_one_chain
#print axioms Tibc.C18.pruning_keeps_one_chain
#print axioms Tibc.C18.created_rootHeights
