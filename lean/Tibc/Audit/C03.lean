import Tibc.Props.C03
import Tibc.Expect.Packet
import Tibc.Expect.Keys
#print axioms Tibc.C03.ack_accepted_authentic
#print axioms Tibc.C03.ack_writes_only_after_verification
#print axioms Tibc.C03.ack_deletes_commitment
#print axioms Tibc.C03.ack_written_nonempty_never_overwritten
#print axioms Tibc.C03.recorded_ack_is_app_ack
#print axioms Tibc.C03.ack_accepted_was_written
#print axioms Tibc.C03.ack_processed_at_most_once
#print axioms Tibc.C03.ack_key_injective
#print axioms Tibc.C03.ack_key_family_disjoint
