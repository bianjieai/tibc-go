import Tibc.Props.C09
import Tibc.Expect.Packet
import Tibc.Expect.Keys
#print axioms Tibc.C09.send_commit_exact
#print axioms Tibc.C09.seqInv_accepted
#print axioms Tibc.C09.seqInv_prims
#print axioms Tibc.C09.send_seq_invariant
#print axioms Tibc.C09.transfer_fail_unchanged
#print axioms Tibc.C09.relay_recommit_keeps_sequences
