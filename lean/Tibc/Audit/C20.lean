import Tibc.Props.C20
import Tibc.Expect.Bsc
import Tibc.Expect.Eth
import Tibc.Expect.Determinism
#print axioms Tibc.C20.insertAsc_pairwise
#print axioms Tibc.C20.vset_pairwise
#print axioms Tibc.C20.vset_ext
#print axioms Tibc.C20.bsc_accepts_order_independent
#print axioms Tibc.C20.routing_order_independent
#print axioms Tibc.C20.eth_accepts_monotone_in_time
