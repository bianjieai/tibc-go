import Tibc.Props.C14
#print axioms Tibc.C14.tm_status_iff
#print axioms Tibc.C14.eth_eq_tm
#print axioms Tibc.C14.eth_status_iff
#print axioms Tibc.C14.eth_status_subsecond
#print axioms Tibc.C14.client_active_iff
#print axioms Tibc.C14.packets_require_active
#print axioms Tibc.C14.update_requires_active
