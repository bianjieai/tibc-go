import Tibc.Props.C19
import Tibc.Expect.Packet
#print axioms Tibc.C19.failed_msg_unchanged
#print axioms Tibc.C19.relay_rejection_records_exactly_receipt_and_ack
#print axioms Tibc.C19.nft_error_ack_no_ownership_effect
