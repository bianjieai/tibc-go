import Tibc.Lemmas.Msg
/-
  What no operation ever undoes (`Grow`, `Mono`), read off the write phases of the accepted
  primitives and lifted to every composition of primitives.
-/
namespace Tibc
open Core

variable (H : Data → Digest)

/-- what every operation of the world preserves of a chain's core state: the name, the clean
    points only move forward, a receipt disappears only at or below the clean point, the ghost
    logs only grow -/
structure Grow (s t : Core) : Prop where
  name : t.name = s.name
  clean : ∀ pr, s.ps.clean pr ≤ t.ps.clean pr
  receipt : ∀ k, s.ps.receipt k = true → t.ps.receipt k = true ∨ k.seq ≤ t.ps.clean k.pair
  sent : ∃ l, t.sent = s.sent ++ l
  ackLog : ∃ l, t.ackLog = s.ackLog ++ l
  evlog : ∃ l, t.evlog = s.evlog ++ l

theorem Grow.of_eq {s t : Core} (hn : t.name = s.name) (hps : t.ps = s.ps) (hs : t.sent = s.sent)
    (ha : t.ackLog = s.ackLog) (he : t.evlog = s.evlog) : Grow s t :=
  ⟨hn, fun _ => by rw [hps]; exact Nat.le_refl _, fun _ h => .inl (by rw [hps]; exact h),
   ⟨[], by rw [hs, List.append_nil]⟩, ⟨[], by rw [ha, List.append_nil]⟩, ⟨[], by rw [he, List.append_nil]⟩⟩

theorem Grow.refl (s : Core) : Grow s s := .of_eq rfl rfl rfl rfl rfl

theorem Grow.stays_protected {s t : Core} (h : Grow s t) {k : PKey}
    (hk : s.ps.receipt k = true ∨ k.seq ≤ s.ps.clean k.pair) : t.ps.receipt k = true ∨ k.seq ≤ t.ps.clean k.pair :=
  hk.elim (h.receipt k) fun hc => .inr (Nat.le_trans hc (h.clean _))

theorem Grow.trans {s t u : Core} (h1 : Grow s t) (h2 : Grow t u) : Grow s u :=
  have app : ∀ {α : Type} {a b c : List α}, (∃ l, b = a ++ l) → (∃ l, c = b ++ l) → ∃ l, c = a ++ l :=
    fun ⟨l1, e1⟩ ⟨l2, e2⟩ => ⟨l1 ++ l2, by rw [e2, e1, List.append_assoc]⟩
  ⟨h2.name.trans h1.name, fun pr => Nat.le_trans (h1.clean pr) (h2.clean pr),
    fun k hk => h2.stays_protected (h1.receipt k hk),
    app h1.sent h2.sent, app h1.ackLog h2.ackLog, app h1.evlog h2.evlog⟩

/-- `Grow`, and the client registry and the routing rules are untouched: what every packet-keeper
    primitive preserves -/
structure Mono (s t : Core) : Prop where
  name : t.name = s.name
  clients : t.clients = s.clients
  rules : t.rules = s.rules
  clean : ∀ pr, s.ps.clean pr ≤ t.ps.clean pr
  receipt : ∀ k, s.ps.receipt k = true → t.ps.receipt k = true ∨ k.seq ≤ t.ps.clean k.pair
  sent : ∃ l, t.sent = s.sent ++ l
  ackLog : ∃ l, t.ackLog = s.ackLog ++ l
  evlog : ∃ l, t.evlog = s.evlog ++ l

theorem Mono.grow {s t : Core} (h : Mono s t) : Grow s t :=
  ⟨h.name, h.clean, h.receipt, h.sent, h.ackLog, h.evlog⟩

theorem Grow.mono {s t : Core} (h : Grow s t) (hc : t.clients = s.clients) (hr : t.rules = s.rules) : Mono s t :=
  ⟨h.name, hc, hr, h.clean, h.receipt, h.sent, h.ackLog, h.evlog⟩

theorem Mono.refl (s : Core) : Mono s s := (Grow.refl s).mono rfl rfl

theorem Mono.trans {s t u : Core} (h1 : Mono s t) (h2 : Mono t u) : Mono s u :=
  (h1.grow.trans h2.grow).mono (h2.clients.trans h1.clients) (h2.rules.trans h1.rules)

theorem Accepted.mono {s t : Core} (h : Accepted H s t) : Mono s t := by
  have keep : ∀ k, s.ps.receipt k = true → s.ps.receipt k = true ∨ k.seq ≤ s.ps.clean k.pair := fun _ h => .inl h
  cases h with
  | send p =>
    exact { name := rfl, clients := rfl, rules := rfl, clean := fun _ => Nat.le_refl _, receipt := keep,
            sent := ⟨_, rfl⟩, ackLog := append_nil_ext _, evlog := ⟨_, rfl⟩ }
  | recv p π h =>
    rw [recvWrites_eq]
    refine { name := rfl, clients := rfl, rules := rfl, clean := fun _ => Nat.le_refl _, receipt := fun k hk => .inl ?_,
             sent := append_nil_ext _, ackLog := append_nil_ext _, evlog := ⟨_, rfl⟩ }
    show upd s.ps.receipt p.key true k = true
    rw [upd_apply]; split
    · rfl
    · exact hk
  | writeAck p a =>
    exact { name := rfl, clients := rfl, rules := rfl, clean := fun _ => Nat.le_refl _, receipt := keep,
            sent := append_nil_ext _, ackLog := ⟨_, rfl⟩, evlog := ⟨_, rfl⟩ }
  | ack p a π h =>
    rw [ackWrites_eq]
    exact { name := rfl, clients := rfl, rules := rfl, clean := fun _ => Nat.le_refl _, receipt := keep,
            sent := append_nil_ext _, ackLog := append_nil_ext _, evlog := ⟨_, rfl⟩ }
  | clean cp hok =>
    exact { name := rfl, clients := rfl, rules := rfl, clean := le_upd (Nat.le_of_lt hok.2.1.1), receipt := fun _ h => .inl h,
            sent := append_nil_ext _, ackLog := append_nil_ext _, evlog := ⟨_, rfl⟩ }
  | recvClean cp π h hok =>
    have hlt : s.ps.clean cp.pair < cp.seq := ((validateClean_ok_iff s cp).mp hok.1).1
    rw [recvCleanWrites_eq]
    refine { name := rfl, clients := rfl, rules := rfl, clean := le_upd (Nat.le_of_lt hlt), receipt := fun k hk => ?_,
             sent := append_nil_ext _, ackLog := append_nil_ext _, evlog := ⟨_, rfl⟩ }
    · show (if _ then false else s.ps.receipt k) = true ∨ k.seq ≤ upd s.ps.clean cp.pair cp.seq k.pair
      split
      · rename_i hc
        have e : k.pair = cp.pair := by rw [PKey.pair, hc.1, hc.2.1]; rfl
        rw [e, upd_same]; exact .inr hc.2.2.2
      · exact .inl hk

theorem Prim.mono {s t : Core} (h : Prim H s t) : Mono s t := by
  rcases h.accepted with rfl | ha
  · exact .refl _
  · exact ha.mono

theorem Prims.mono {s t : Core} (h : Prims H s t) : Mono s t := by
  induction h with
  | refl => exact .refl _
  | step _ hp ih => exact ih.trans (hp.mono H)

/-- what holds of nothing done, of every accepted primitive, and of two stretches in a row (of
    which it may use that both are `Mono`) holds along every composition of primitives -/
theorem Prims.lift {R : Core → Core → Prop} (refl : ∀ s, R s s) (acc : ∀ s t, Accepted H s t → R s t)
    (trans : ∀ {s t u}, Mono s t → Mono t u → R s t → R t u → R s u) {s t : Core} (h : Prims H s t) : R s t := by
  induction h with
  | refl => exact refl _
  | step hpre hp ih =>
    refine trans (hpre.mono H) (hp.mono H) ih ?_
    rcases hp.accepted with rfl | ha
    · exact refl _
    · exact acc _ _ ha

theorem Delivered.mono (Hc : Str → Str) {s t : State} (h : Delivered H Hc s t) : Mono s.core t.core :=
  (h.prims H Hc).mono H

end Tibc
