import Tibc.App.Transfer
import Tibc.Lemmas.ClassPath
/-
  The NFT transfer application step by step: case lemmas for the keeper operations
  `transferOwner`, `burn`, `mint` of `NftMod` and for the application's send / receive steps;
  ownership effects, error-side facts and "the MT module is not touched" are projections of these.
-/
namespace Tibc
open ClassPath

/-- what both steps of the keepers' `if err != nil { return err }` sequence keep of the state, the sequence keeps -/
theorem fst_seq {P : Apps → Prop} (r : Apps × Res) (f : Apps → Apps × Res) (hr : P r.1) (hf : ∀ s, P s → P (f s).1) :
    P (match r with | (s, Res.err e) => (s, Res.err e) | (s, Res.ok) => f s).1 := by
  rcases r with ⟨s, _ | e⟩
  · exact hf s hr
  · exact hr

/-- after a first step that succeeded, the sequence is its second step. Applied, not rewritten with: a `match` written in a proof is another auxiliary matcher than the
    model's, equal to it only after unfolding, so `rw` with the scrutinee's value finds no instance -/
theorem seq_ok {s : Apps} (f : Apps → Apps × Res) : ∀ {r : Apps × Res}, r = (s, .ok) →
    (match r with | (s, Res.err e) => (s, Res.err e) | (s, Res.ok) => f s) = f s := by
  rintro _ rfl; rfl

theorem liftNft_ok (a : Apps) (m : NftMod) : liftNft a (m, .ok) = ({ a with nft := m }, .ok) := rfl

namespace NftMod

theorem transferOwner_eq {m : NftMod} {cls id : Str} {src : Addr} (ho : m.owner (cls, id) = some src)
    (hd : (m.denom cls).isSome = true) (dst : Addr) :
    m.transferOwner cls id src dst = ({ m with owner := upd m.owner (cls, id) (some dst) }, .ok) := by
  obtain ⟨dn, hdn⟩ := Option.isSome_iff_exists.mp hd
  simp only [transferOwner, ho, hdn, bne_self_eq_false, Bool.false_eq_true, if_false]

theorem transferOwner_cases (m : NftMod) (cls id : Str) (src dst : Addr) :
    (m.owner (cls, id) = some src ∧ (m.denom cls).isSome = true ∧
      m.transferOwner cls id src dst = ({ m with owner := upd m.owner (cls, id) (some dst) }, .ok)) ∨
    ∃ e, m.transferOwner cls id src dst = (m, .err e) := by
  fun_cases transferOwner m cls id src dst with
  | case1 | case2 | case3 => exact .inr ⟨_, rfl⟩
  | case4 o ho hs dn hd => exact .inl ⟨ho.trans (congrArg some (by simpa using hs)), by rw [hd]; rfl, rfl⟩

theorem burn_cases (m : NftMod) (cls id : Str) (owner : Addr) :
    (m.owner (cls, id) = some owner ∧ (m.denom cls).isSome = true ∧
      m.burn cls id owner = ({ m with owner := upd m.owner (cls, id) none }, .ok)) ∨
    ∃ e, m.burn cls id owner = (m, .err e) := by
  fun_cases burn m cls id owner with
  | case1 | case2 => exact .inr ⟨_, rfl⟩
  | case3 hs dn hd => exact .inl ⟨by simpa using hs, by rw [hd]; rfl, rfl⟩

theorem mint_eq {m : NftMod} {cls id : Str} (hd : (m.denom cls).isSome = true) (ho : m.owner (cls, id) = none)
    (uri : String) (owner : Addr) :
    m.mint cls id uri owner =
      ({ m with owner := upd m.owner (cls, id) (some owner), uri := upd m.uri (cls, id) uri }, .ok) := by
  obtain ⟨dn, hdn⟩ := Option.isSome_iff_exists.mp hd
  simp only [mint, ho, hdn, Option.isSome_none, Bool.false_eq_true, if_false]

theorem mint_cases (m : NftMod) (cls id : Str) (uri : String) (owner : Addr) :
    ((m.denom cls).isSome = true ∧ m.owner (cls, id) = none ∧
      m.mint cls id uri owner =
        ({ m with owner := upd m.owner (cls, id) (some owner), uri := upd m.uri (cls, id) uri }, .ok)) ∨
    ∃ e, m.mint cls id uri owner = (m, .err e) := by
  fun_cases mint m cls id uri owner with
  | case1 | case2 => exact .inr ⟨_, rfl⟩
  | case3 dn hd ho => exact .inl ⟨by rw [hd]; rfl, by simpa using ho, rfl⟩

theorem issueDenom_eq {m : NftMod} {cls : Str} (hd : m.denom cls = none) (creator : Addr) (mr : Bool) :
    m.issueDenom cls creator mr = ({ m with denom := upd m.denom cls (some ⟨creator, mr⟩) }, .ok) := by
  simp only [issueDenom, hd]

end NftMod

variable (Hc : Str → Str)

theorem nftSendToken_cases (a : Apps) (cls id : Str) (sender : Addr) (away : Bool) :
    (a.nft.owner (cls, id) = some sender ∧ (a.nft.denom cls).isSome = true ∧
      nftSendToken a cls id sender away =
        ({ a with nft := { a.nft with owner := upd a.nft.owner (cls, id) (if away then some nftModAddr else none) } },
          .ok)) ∨
    ∃ e, nftSendToken a cls id sender away = (a, .err e) := by
  cases away with
  | true =>
    rcases a.nft.transferOwner_cases cls id sender nftModAddr with ⟨ho, hd, e⟩ | ⟨e', e⟩
    · exact .inl ⟨ho, hd, congrArg (liftNft a) e⟩
    · exact .inr ⟨e', congrArg (liftNft a) e⟩
  | false =>
    rcases a.nft.burn_cases cls id sender with ⟨ho, hd, e⟩ | ⟨e', e⟩
    · exact .inl ⟨ho, hd, congrArg (liftNft a) e⟩
    · exact .inr ⟨e', congrArg (liftNft a) e⟩

theorem nftSendToken_owner (a : Apps) (cls id : Str) (sender : Addr) (away : Bool)
    (hok : (nftSendToken a cls id sender away).2 = .ok) :
    a.nft.owner (cls, id) = some sender ∧
    (nftSendToken a cls id sender away).1.nft.owner =
      upd a.nft.owner (cls, id) (if away then some nftModAddr else none) := by
  rcases nftSendToken_cases a cls id sender away with ⟨ho, _, e⟩ | ⟨e', e⟩
  · rw [e]; exact ⟨ho, rfl⟩
  · rw [e] at hok; cases hok

theorem nftSendToken_mt (a : Apps) (cls id : Str) (sender : Addr) (away : Bool) :
    (nftSendToken a cls id sender away).1.mt = a.mt := by
  rcases nftSendToken_cases a cls id sender away with ⟨_, _, e⟩ | ⟨e', e⟩ <;> rw [e]

theorem nftRecvBack_cases (a : Apps) (d : NftData) :
    (∃ newPath, getBack d.cls = some newPath ∧
      a.nft.owner (ibcClass Hc newPath, d.id) = some nftModAddr ∧
      nftRecvBack Hc a d =
        ({ a with nft := { a.nft with owner := upd a.nft.owner (ibcClass Hc newPath, d.id) (some d.receiver) } },
          .ok)) ∨
    ∃ e, nftRecvBack Hc a d = (a, .err e) := by
  fun_cases nftRecvBack Hc a d with
  | case1 | case2 => exact .inr ⟨_, rfl⟩
  | case3 _ np hnp =>
    rcases a.nft.transferOwner_cases (ibcClass Hc np) d.id nftModAddr d.receiver with ⟨ho, _, e⟩ | ⟨e', e⟩
    · exact .inl ⟨np, hnp, ho, congrArg (liftNft a) e⟩
    · exact .inr ⟨e', congrArg (liftNft a) e⟩

theorem nftRecvBack_owner (a : Apps) (d : NftData)
    (hok : (nftRecvBack Hc a d).2 = .ok) :
    ∃ newPath, getBack d.cls = some newPath ∧
      a.nft.owner (ibcClass Hc newPath, d.id) = some nftModAddr ∧
      (nftRecvBack Hc a d).1.nft.owner = upd a.nft.owner (ibcClass Hc newPath, d.id) (some d.receiver) := by
  rcases nftRecvBack_cases Hc a d with ⟨np, hnp, ho, e⟩ | ⟨e', e⟩
  · rw [e]; exact ⟨np, hnp, ho, rfl⟩
  · rw [e] at hok; cases hok

theorem nftRecvBack_err (a : Apps) (d : NftData) (e : Err) (herr : (nftRecvBack Hc a d).2 = .err e) :
    (nftRecvBack Hc a d).1 = a := by
  rcases nftRecvBack_cases Hc a d with ⟨_, _, _, e'⟩ | ⟨_, e'⟩
  · rw [e'] at herr; cases herr
  · rw [e']

theorem nftRecvBack_mt (a : Apps) (d : NftData) : (nftRecvBack Hc a d).1.mt = a.mt := by
  rcases nftRecvBack_cases Hc a d with ⟨_, _, _, e⟩ | ⟨_, e⟩ <;> rw [e]

theorem nftVoucherClass_eq (a : Apps) (path : Str) :
    ∃ s, nftVoucherClass Hc a path = (s, ibcClass Hc path) ∧ s.nft = a.nft ∧ s.mt = a.mt := by
  unfold nftVoucherClass
  dsimp only
  cases (a.nftTraces (Hc (fullPath (parseTrace path)))).isSome <;> exact ⟨_, rfl, rfl, rfl⟩

theorem nftRecvAway_cases (a : Apps) (p : Packet) (d : NftData) :
    (nftRecvAway Hc a p d).1.mt = a.mt ∧
    (((nftRecvAway Hc a p d).2 = .ok ∧
        a.nft.owner (ibcClass Hc (getAway nftPfx p.src.toList p.dst.toList d.cls), d.id) = none ∧
        (nftRecvAway Hc a p d).1.nft.owner =
          upd a.nft.owner (ibcClass Hc (getAway nftPfx p.src.toList p.dst.toList d.cls), d.id) (some d.receiver)) ∨
      ((∃ e, (nftRecvAway Hc a p d).2 = .err e) ∧ (nftRecvAway Hc a p d).1.nft.owner = a.nft.owner)) := by
  obtain ⟨s1, e1, hn, hm⟩ := nftVoucherClass_eq Hc a (getAway nftPfx p.src.toList p.dst.toList d.cls)
  generalize hr : nftRecvAway Hc a p d = r
  simp only [nftRecvAway, e1] at hr
  rw [← hn, ← hm]
  generalize ibcClass Hc (getAway nftPfx p.src.toList p.dst.toList d.cls) = vc at hr ⊢
  -- three keeper calls in a row: the voucher class (touches the traces only), its denom (issued if
  -- absent: cannot fail), then mint to the module and hand over (cannot fail after the mint)
  obtain ⟨s2, e2, ho2, hm2⟩ : ∃ s2,
      (match s1.nft.denom vc with
        | some _ => (s1, Res.ok)
        | none => liftNft s1 (s1.nft.issueDenom vc nftModAddr true)) = (s2, Res.ok) ∧
      s2.nft.owner = s1.nft.owner ∧ s2.mt = s1.mt := by
    cases hd : s1.nft.denom vc with
    | some dn => exact ⟨s1, rfl, rfl, rfl⟩
    | none => rw [NftMod.issueDenom_eq hd]; exact ⟨_, rfl, rfl, rfl⟩
  have hr := (seq_ok _ e2).symm.trans hr
  rw [← ho2, ← hm2]
  rcases s2.nft.mint_cases vc d.id d.uri nftModAddr with ⟨hd, hnone, e⟩ | ⟨e', e⟩
  · simp only [e, liftNft_ok, NftMod.transferOwner_eq, upd_same, hd] at hr
    subst hr
    exact ⟨rfl, .inl ⟨rfl, hnone, upd_upd ..⟩⟩
  · rw [e] at hr
    subst hr
    exact ⟨rfl, .inr ⟨⟨e', rfl⟩, rfl⟩⟩

theorem nftOnRecv_cases (a : Apps) (p : Packet) (d : NftData) :
    nftOnRecv Hc a p d = (a, .err .invalidAddress) ∨ nftOnRecv Hc a p d = nftRecvAway Hc a p d ∨
    nftOnRecv Hc a p d = nftRecvBack Hc a d := by
  fun_cases nftOnRecv Hc a p d with
  | case1 | case2 | case3 => exact .inl rfl
  | case4 => exact .inr (.inl rfl)
  | case5 => exact .inr (.inr rfl)

theorem nftOnRecv_mt (a : Apps) (p : Packet) (d : NftData) : (nftOnRecv Hc a p d).1.mt = a.mt := by
  rcases nftOnRecv_cases Hc a p d with e | e | e <;> rw [e]
  · exact (nftRecvAway_cases Hc a p d).1
  · exact nftRecvBack_mt Hc a d

theorem nftRefund_mt (a : Apps) (d : NftData) : (nftRefund Hc a d).1.mt = a.mt := by
  fun_cases nftRefund Hc a d with
  | case1 | case2 => rfl
  | case3 _ _ _ s e h | case4 _ _ _ s h => exact (congrArg (·.1.mt) h).symm

end Tibc
