import Tibc.LC.Eth
/- Helper lemmas for the ETH client model: the difficulty floor, ancestor chains in the header index,
   the three loops of the main-chain rewrite (`descend`, `meet`, `rewrite`; `restrict` itself is in
   `Lemmas/EthChain`) and what adding a header to the index keeps. -/
namespace Tibc.ETH

theorem calcDifficulty_ge (t : Nat) (p : Hdr) : calcDifficulty t p ≥ 131072 := by
  -- only the clamp at 131072 and the sign of the bomb term matter
  have clamp : ∀ (x : Int) (bomb : Nat), ((if x < 131072 then 131072 else x) + (bomb : Int)).toNat ≥ 131072 := by
    intro x bomb; split <;> omega
  exact clamp _ _

/-- `a` is `x` or one of its ancestors through stored parent links -/
inductive Anc (c : Client) : Hdr → Hdr → Prop
  | refl (x : Hdr) : Anc c x x
  | step {x p a : Hdr} : parentOf c x = some p → Anc c p a → Anc c x a

def Stored (c : Client) (x : Hdr) : Prop := c.idx (x.hash, x.number) = some x

def KeysOk (c : Client) : Prop := ∀ k n x, c.idx (k, n) = some x → x.hash = k ∧ x.number = n

theorem stored_of_idx {c : Client} (hk : KeysOk c) {k : String} {n : Nat} {x : Hdr} (h : c.idx (k, n) = some x) : Stored c x := by
  obtain ⟨h1, h2⟩ := hk k n x h
  unfold Stored; rw [h1, h2]; exact h

theorem parentOf_eq_some {c : Client} {x p : Hdr} :
    parentOf c x = some p ↔ x.number ≠ 0 ∧ c.idx (x.parent, x.number - 1) = some p := by
  unfold parentOf
  by_cases h0 : x.number = 0
  · rw [if_pos (beq_iff_eq.mpr h0)]; exact ⟨nofun, fun h => absurd h0 h.1⟩
  · rw [if_neg (mt beq_iff_eq.mp h0)]; exact ⟨fun h => ⟨h0, h⟩, And.right⟩

theorem parentOf_spec {c : Client} (hk : KeysOk c) {x p : Hdr} (h : parentOf c x = some p) :
    x.number ≠ 0 ∧ p.number + 1 = x.number ∧ p.hash = x.parent ∧ Stored c p := by
  obtain ⟨h0, h⟩ := parentOf_eq_some.mp h
  obtain ⟨h1, h2⟩ := hk _ _ _ h
  exact ⟨h0, by omega, h1, stored_of_idx hk h⟩

theorem parentOf_number {c : Client} (hk : KeysOk c) {x p : Hdr} (h : parentOf c x = some p) : p.number + 1 = x.number :=
  (parentOf_spec hk h).2.1

theorem parentOf_stored {c : Client} (hk : KeysOk c) {x p : Hdr} (h : parentOf c x = some p) : Stored c p :=
  (parentOf_spec hk h).2.2.2

theorem Anc.number_le {c : Client} (hk : KeysOk c) {x a : Hdr} (h : Anc c x a) : a.number ≤ x.number := by
  induction h with
  | refl => exact Nat.le_refl _
  | step hp _ ih => have := parentOf_number hk hp; omega

theorem Anc.stored {c : Client} (hk : KeysOk c) {x a : Hdr} (hx : Stored c x) (h : Anc c x a) : Stored c a := by
  induction h with
  | refl => exact hx
  | step hp _ ih => exact ih (parentOf_stored hk hp)

theorem Anc.trans {c : Client} {x y z : Hdr} (h1 : Anc c x y) (h2 : Anc c y z) : Anc c x z := by
  induction h1 with
  | refl => exact h2
  | step hp _ ih => exact Anc.step hp (ih h2)

theorem Anc.eq_of_le {c : Client} (hk : KeysOk c) {x b : Hdr} (h : Anc c x b) (hle : x.number ≤ b.number) : x = b := by
  cases h with
  | refl => rfl
  | step hp hr =>
    have := parentOf_number hk hp
    have := hr.number_le hk
    omega

/-- the ancestors of a header lie on one chain -/
theorem Anc.total {c : Client} {x a y : Hdr} (h : Anc c x a) (h' : Anc c x y) : Anc c y a ∨ Anc c a y := by
  induction h with
  | refl => exact .inr h'
  | step hp hr ih =>
    cases h' with
    | refl => exact .inl (Anc.step hp hr)
    | step hp' hr' => cases hp.symm.trans hp'; exact ih hr'

theorem Anc.unique {c : Client} (hk : KeysOk c) {x a a' : Hdr} (h : Anc c x a) (h' : Anc c x a')
    (hn : a.number = a'.number) : a = a' :=
  (h.total h').elim (fun t => (t.eq_of_le hk (Nat.le_of_eq hn.symm)).symm) fun t => t.eq_of_le hk (Nat.le_of_eq hn)

theorem Anc.exists_at {c : Client} (hk : KeysOk c) {x b : Hdr} (h : Anc c x b) (n : Nat)
    (h1 : b.number ≤ n) (h2 : n ≤ x.number) : ∃ a, Anc c x a ∧ a.number = n ∧ Anc c a b := by
  induction h with
  | refl x => exact ⟨x, Anc.refl x, by omega, Anc.refl x⟩
  | @step x p a hp hr ih =>
    have hnum := parentOf_number hk hp
    by_cases hx : n = x.number
    · exact ⟨x, Anc.refl x, hx.symm, Anc.step hp hr⟩
    · obtain ⟨a', ha1, ha2, ha3⟩ := ih h1 (by omega)
      exact ⟨a', Anc.step hp ha1, ha2, ha3⟩

theorem Anc.lower {c : Client} {x a : Hdr} (h : Anc c x a) (hlt : a.number < x.number) :
    ∃ p, parentOf c x = some p ∧ Anc c p a := by
  cases h with
  | refl => omega
  | step hp hr => exact ⟨_, hp, hr⟩

/-- `l` lists, bottom up, the headers strictly above `lo` on one parent-linked path -/
def IsPath (c : Client) : Hdr → List Hdr → Prop
  | _, [] => True
  | lo, x :: rest => parentOf c x = some lo ∧ IsPath c x rest

def lastOf : Hdr → List Hdr → Hdr
  | lo, [] => lo
  | _, x :: rest => lastOf x rest

theorem IsPath.mem_anc {c : Client} : ∀ {lo : Hdr} {l : List Hdr}, IsPath c lo l → ∀ y ∈ lo :: l, Anc c (lastOf lo l) y
  | lo, [], _, y, hy => by
    cases List.mem_singleton.mp hy; exact Anc.refl _
  | lo, x :: _, h, y, hy => by
    rcases List.mem_cons.mp hy with rfl | hy
    · exact (IsPath.mem_anc h.2 x List.mem_cons_self).trans (Anc.step h.1 (Anc.refl _))
    · exact IsPath.mem_anc h.2 y hy

/-- the first loop succeeds when an ancestor `b` lies at least `k` blocks below -/
theorem descend_spec {c : Client} (hk : KeysOk c) {b : Hdr} (k : Nat) : ∀ (new : Hdr) (acc : List Hdr),
    IsPath c new acc → Anc c new b → b.number + k ≤ new.number →
    ∃ n1 acc1, descend c new acc k = some (n1, acc1) ∧ IsPath c n1 acc1 ∧ lastOf n1 acc1 = lastOf new acc ∧
      Anc c n1 b ∧ n1.number + k = new.number := by
  induction k with
  | zero => intro new acc hp hb _; exact ⟨new, acc, rfl, hp, rfl, hb, rfl⟩
  | succ k ih =>
    intro new acc hp hb hle
    obtain ⟨p, hpar, hpb⟩ := hb.lower (by omega)
    have := parentOf_number hk hpar
    obtain ⟨n1, acc1, hd, h1, h2, h4, h5⟩ := ih p (new :: acc) ⟨hpar, hp⟩ hpb (by omega)
    exact ⟨n1, acc1, by unfold descend; rw [hpar]; exact hd, h1, h2, h4, by omega⟩


theorem parentOf_mono {c c' : Client} (hsub : ∀ k x, c.idx k = some x → c'.idx k = some x) {x p : Hdr}
    (h : parentOf c x = some p) : parentOf c' x = some p :=
  parentOf_eq_some.mpr ((parentOf_eq_some.mp h).imp id (hsub _ _))

theorem Anc.mono {c c' : Client} (hsub : ∀ k x, c.idx k = some x → c'.idx k = some x) {x a : Hdr}
    (h : Anc c x a) : Anc c' x a := by
  induction h with
  | refl => exact Anc.refl _
  | step hp _ ih => exact Anc.step (parentOf_mono hsub hp) ih

theorem IsPath.mono {c c' : Client} (hsub : ∀ k x, c.idx k = some x → c'.idx k = some x) :
    ∀ {lo : Hdr} {l : List Hdr}, IsPath c lo l → IsPath c' lo l
  | _, [], _ => trivial
  | _, _ :: _, hp => ⟨parentOf_mono hsub hp.1, IsPath.mono hsub hp.2⟩

/-- the second loop succeeds when both headers descend from a common base `b` at most `f` blocks
    below: at the base height, at the latest, the parents coincide -/
theorem meet_spec {c : Client} (hk : KeysOk c) {b : Hdr} (f : Nat) : ∀ (cur new : Hdr) (acc : List Hdr),
    IsPath c new acc → Anc c cur b → Anc c new b → cur.number = new.number → new.number ≤ b.number + f →
    ∃ n2 acc2 cur2, meet c cur new acc f = some (n2, acc2) ∧ IsPath c n2 acc2 ∧ lastOf n2 acc2 = lastOf new acc ∧
      Anc c cur cur2 ∧ cur2.number = n2.number ∧ cur2.parent = n2.parent := by
  -- two headers at the base height are the base, so their parents coincide
  have base : ∀ cur new : Hdr, Anc c cur b → Anc c new b → cur.number = new.number → new.number ≤ b.number →
      cur.parent = new.parent := fun cur new hcb hnb hn hle => by
    rw [hcb.eq_of_le hk (hn ▸ hle), hnb.eq_of_le hk hle]
  induction f with
  | zero =>
    intro cur new acc hp hcb hnb hn hf
    have heq := base cur new hcb hnb hn hf
    exact ⟨new, acc, cur, if_pos (beq_iff_eq.mpr heq), hp, rfl, Anc.refl _, hn, heq⟩
  | succ f ih =>
    intro cur new acc hp hcb hnb hn hf
    by_cases heq : cur.parent = new.parent
    · exact ⟨new, acc, cur, if_pos (beq_iff_eq.mpr heq), hp, rfl, Anc.refl _, hn, heq⟩
    · have hlt : b.number < new.number := Nat.lt_of_not_le fun hle => heq (base cur new hcb hnb hn hle)
      obtain ⟨pn, hpn, hpnb⟩ := hnb.lower hlt
      obtain ⟨pc, hpc, hpcb⟩ := hcb.lower (hn ▸ hlt)
      have e1 := parentOf_number hk hpn
      have e2 := parentOf_number hk hpc
      obtain ⟨n2, acc2, cur2, hm, h1, h2, h3, h5⟩ := ih pc pn (new :: acc) ⟨hpn, hp⟩ hpcb hpnb (by omega) (by omega)
      refine ⟨n2, acc2, cur2, ?_, h1, h2, Anc.step hpc h3, h5⟩
      unfold meet
      rw [if_neg (mt beq_iff_eq.mp heq), hpn, hpc]
      exact hm

theorem rewrite_frame {c c' : Client} {l : List Hdr} {n : Nat} (h : rewrite c l n = some c') :
    c'.idx = c.idx ∧ c'.rootMain = c.rootMain ∧ c'.latest = c.latest := by
  fun_induction rewrite c l n with
  | case1 => cases h; exact ⟨rfl, rfl, rfl⟩
  | case2 => cases h
  | case3 c x rest n hd hx ih => exact ih h

/-- the rewrite of a stored path succeeds, exposes the path's consensus states and leaves the
    heights below it alone -/
theorem rewrite_spec (l : List Hdr) : ∀ (c : Client) (lo : Hdr), KeysOk c →
    IsPath c lo l → (∀ x ∈ lo :: l, Stored c x) →
    ∃ c', rewrite c (lo :: l) lo.number = some c' ∧
      (∀ x ∈ lo :: l, c'.cons x.number = some (consOf x)) ∧ (∀ n, n < lo.number → c'.cons n = c.cons n) := by
  induction l with
  | nil =>
    intro c lo _ _ hs
    have hlo : c.idx (lo.hash, lo.number) = some lo := hs lo (List.mem_singleton.mpr rfl)
    refine ⟨_, by unfold rewrite; rw [hlo]; rfl, ?_, ?_⟩
    · intro x hx; cases List.mem_singleton.mp hx; exact upd_same ..
    · intro n hlt; exact upd_other _ _ _ _ (Nat.ne_of_lt hlt)
  | cons x rest ih =>
    intro c lo hk hp hs
    have hxn := parentOf_number hk hp.1
    let c1 : Client := { c with cons := upd c.cons lo.number (some (consOf lo)), heights := insertHeight lo.number c.heights }
    obtain ⟨c', hr, h5, h6⟩ := ih c1 x hk (IsPath.mono (c := c) (c' := c1) (fun _ _ => id) hp.2) (fun y hy => hs y (List.mem_cons_of_mem _ hy))
    have hlo : c.idx (lo.hash, lo.number) = some lo := hs lo List.mem_cons_self
    refine ⟨c', by unfold rewrite; rw [hlo, hxn]; exact hr, ?_, ?_⟩
    · intro y hy
      rcases List.mem_cons.mp hy with rfl | hy
      · rw [h6 y.number (by omega)]; exact upd_same ..
      · exact h5 y hy
    · intro n hlt
      rw [h6 n (by omega)]; exact upd_other _ _ _ _ (Nat.ne_of_lt hlt)


theorem Anc.between {c : Client} (hk : KeysOk c) {x a y : Hdr} (ha : Anc c x a) (hy : Anc c x y)
    (hle : a.number ≤ y.number) : Anc c y a :=
  (ha.total hy).elim id fun t => t.eq_of_le hk hle ▸ Anc.refl a

theorem IsPath.covers {c : Client} (hk : KeysOk c) : ∀ {lo : Hdr} {l : List Hdr}, IsPath c lo l → ∀ n,
    lo.number ≤ n → n ≤ (lastOf lo l).number → ∃ y ∈ lo :: l, y.number = n
  | lo, [], _, n, h1, h2 => ⟨lo, List.mem_cons_self, Nat.le_antisymm h1 h2⟩
  | lo, x :: rest, hp, n, h1, h2 => by
    have hx := parentOf_number hk hp.1
    by_cases hn : n = lo.number
    · exact ⟨lo, List.mem_cons_self, hn.symm⟩
    · obtain ⟨y, hy, hyn⟩ := IsPath.covers hk hp.2 n (by omega) h2
      exact ⟨y, List.mem_cons_of_mem _ hy, hyn⟩

/-- the new header collides with nothing stored: its hash is new, nobody names it as parent yet,
    and no stored header of its height has its state root -/
def Fresh (c : Client) (h : Hdr) : Prop :=
  ∀ k n x, c.idx (k, n) = some x → x.hash ≠ h.hash ∧ x.parent ≠ h.hash ∧ (x.number = h.number → x.root ≠ h.root)

theorem index_idx_cases {c : Client} {h : Hdr} {k : String} {n : Nat} {x : Hdr} (hx : (index c h).idx (k, n) = some x) :
    x = h ∧ k = h.hash ∧ n = h.number ∨ c.idx (k, n) = some x :=
  (upd_eq_some hx).imp (fun ⟨hk, hv⟩ => ⟨(Option.some.inj hv).symm, Prod.mk.inj hk⟩) And.right

theorem index_keys {c : Client} (hk : KeysOk c) (h : Hdr) : KeysOk (index c h) := by
  intro k n x hx
  rcases index_idx_cases hx with ⟨rfl, rfl, rfl⟩ | hx
  · exact ⟨rfl, rfl⟩
  · exact hk k n x hx

theorem index_sub {c : Client} (hk : KeysOk c) {h : Hdr} (hf : Fresh c h) :
    ∀ k x, c.idx k = some x → (index c h).idx k = some x := by
  intro ⟨k, n⟩ x hx
  have hne : (k, n) ≠ (h.hash, h.number) := fun heq => (hf k n x hx).1 ((hk k n x hx).1.trans (Prod.mk.inj heq).1)
  exact (upd_other _ _ _ _ hne).trans hx

theorem index_stored_new (c : Client) (h : Hdr) : Stored (index c h) h := upd_same ..

theorem index_parentOf_old {c : Client} {h x : Hdr} (hne : x.parent ≠ h.hash) : parentOf (index c h) x = parentOf c x := by
  have e : (index c h).idx (x.parent, x.number - 1) = c.idx (x.parent, x.number - 1) :=
    upd_other _ _ _ _ fun heq => hne (Prod.mk.inj heq).1
  unfold parentOf; rw [e]

/-- the ancestors of an old header are old: no stored header names the new one as parent -/
theorem index_anc_old {c : Client} (hk : KeysOk c) {h x a : Hdr} (hf : Fresh c h) (hx : Stored c x)
    (ha : Anc (index c h) x a) : Anc c x a := by
  induction ha with
  | refl => exact Anc.refl _
  | @step x p a hp _ ih =>
    rw [index_parentOf_old (hf _ _ _ hx).2.1] at hp
    exact Anc.step hp (ih (parentOf_stored hk hp))

theorem index_rootMain_old {c : Client} {h x : Hdr} (hf : Fresh c h) (hx : Stored c x) :
    (index c h).rootMain (x.root, x.number) = c.rootMain (x.root, x.number) :=
  upd_other _ _ _ _ fun heq => (hf _ _ _ hx).2.2 (Prod.mk.inj heq).2 (Prod.mk.inj heq).1

end Tibc.ETH
