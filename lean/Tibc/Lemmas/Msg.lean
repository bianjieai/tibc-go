import Tibc.MsgServer
import Tibc.Lemmas.Keeper
/-
  The message server and the application callbacks. On the core state every handler's effect is
  a composition of packet-keeper primitives (`Prims`); on the whole chain state a transaction does
  one of a few kinds of things (`Delivered`), from which the facts about the core state, the
  callback log and the token modules are read off.
-/
namespace Tibc

variable (H : Data → Digest) (Hc : Str → Str)

/-- one packet-keeper primitive applied to the core state -/
inductive Prim : Core → Core → Prop
  | send (s : Core) (p : Packet) : Prim s (s.sendPacket H p).1
  | recv (s : Core) (p : Packet) (π : Proof) (h : Nat) : Prim s (s.recvPacket H p π h).1
  | writeAck (s : Core) (p : Packet) (a : Data) : Prim s (s.writeAck H p a).1
  | ack (s : Core) (p : Packet) (a : Data) (π : Proof) (h : Nat) : Prim s (s.acknowledgePacket H p a π h).1
  | clean (s : Core) (cp : CleanPacket) : Prim s (s.cleanPacket cp).1
  | recvClean (s : Core) (cp : CleanPacket) (π : Proof) (h : Nat) : Prim s (s.recvCleanPacket cp π h).1

/-- reflexive-transitive closure of `Prim` -/
inductive Prims : Core → Core → Prop
  | refl (s : Core) : Prims s s
  | step {s t u : Core} : Prims s t → Prim H t u → Prims s u

theorem Prims.single {s t : Core} (h : Prim H s t) : Prims H s t := .step (.refl s) h

theorem Prims.trans {s t u : Core} (h1 : Prims H s t) (h2 : Prims H t u) : Prims H s u := by
  induction h2 with
  | refl => exact h1
  | step _ hp ih => exact .step ih hp

/-- a primitive whose checks passed: the result is its write phase -/
inductive Accepted (s : Core) : Core → Prop
  | send (p : Packet) : s.SendOk p → Accepted s (s.sendWrites H p)
  | recv (p : Packet) (π : Proof) (h : Nat) : s.RecvOk H p π h → Accepted s (s.recvWrites H p).1
  | writeAck (p : Packet) (a : Data) : s.WriteAckOk p a → Accepted s (s.writeAckWrites H p a)
  | ack (p : Packet) (a : Data) (π : Proof) (h : Nat) : s.AckOk H p a π h → Accepted s (s.ackWrites H p a).1
  | clean (cp : CleanPacket) : s.CleanOk cp → Accepted s (s.cleanWrites cp)
  | recvClean (cp : CleanPacket) (π : Proof) (h : Nat) : s.RecvCleanOk cp π h → Accepted s (s.recvCleanWrites cp).1

/-- from a keeper function's case lemma: refused and unchanged, or its write phase `x.1` -/
theorem accepted_of_cases {s : Core} {r x : Core × Res} {A B : Prop} (ha : A → Accepted H s x.1)
    (h : (A ∧ r = x) ∨ (B ∧ ∃ e, r = (s, .err e))) : r.1 = s ∨ Accepted H s r.1 := by
  rcases h with ⟨hok, rfl⟩ | ⟨_, _, rfl⟩
  · exact .inr (ha hok)
  · exact .inl rfl

theorem Prim.accepted {s t : Core} (h : Prim H s t) : t = s ∨ Accepted H s t := by
  cases h with
  | send p => exact accepted_of_cases H (.send p) (s.sendPacket_cases H p)
  | recv p π h =>
    exact accepted_of_cases H (.recv p π h) ((s.recvPacket_cases H p π h).imp_right fun ⟨hn, e, _, he⟩ => ⟨hn, e, he⟩)
  | writeAck p a => exact accepted_of_cases H (.writeAck p a) (s.writeAck_cases H p a)
  | ack p a π h => exact accepted_of_cases H (.ack p a π h) (s.acknowledgePacket_cases H p a π h)
  | clean cp => exact accepted_of_cases H (.clean cp) (s.cleanPacket_cases cp)
  | recvClean cp π h => exact accepted_of_cases H (.recvClean cp π h) (s.recvCleanPacket_cases cp π h)

@[simp] theorem liftCore_core (s : State) (r : Core × Res) : (liftCore s r).1.core = r.1 := rfl
@[simp] theorem liftCore_res (s : State) (r : Core × Res) : (liftCore s r).2 = r.2 := rfl
@[simp] theorem liftCore_apps (s : State) (r : Core × Res) : (liftCore s r).1.apps = s.apps := rfl
@[simp] theorem liftApps_core (s : State) (r : Apps × Res) : (liftApps s r).1.core = s.core := rfl
@[simp] theorem liftApps_res (s : State) (r : Apps × Res) : (liftApps s r).2 = r.2 := rfl
@[simp] theorem logCb_core (s : State) (k : String) (p : Packet) : (logCb s k p).core = s.core := rfl
@[simp] theorem logCb_apps (s : State) (k : String) (p : Packet) : (logCb s k p).apps = s.apps := rfl

/-- BaseApp: a message fails and leaves the state alone, or it passed `ValidateBasic` and the
    outcome is what its handler did -/
theorem deliver_cases (s : State) (m : Msg) :
    (∃ e, deliver H Hc s m = (s, .err e)) ∨
    (validateBasic m = .ok ∧ (handle H Hc s m).2 = .ok ∧ deliver H Hc s m = handle H Hc s m) := by
  unfold deliver
  cases validateBasic m with
  | err e => exact .inl ⟨e, rfl⟩
  | ok =>
    rcases handle H Hc s m with ⟨s', _ | e⟩
    · exact .inr ⟨rfl, rfl, rfl⟩
    · exact .inl ⟨e, rfl⟩

theorem deliver_err_unchanged (s : State) (m : Msg) (e : Err) (h : (deliver H Hc s m).2 = .err e) :
    (deliver H Hc s m).1 = s := by
  rcases deliver_cases H Hc s m with ⟨_, he⟩ | ⟨_, hok, he⟩
  · rw [he]
  · rw [he, hok] at h; cases h

/-- What a transaction does to a chain: nothing (refused and rolled back); packet-keeper writes
    only (clean-ups, traffic passing through a relay chain, a relay's refusal); a delivery to the
    destination's application; an acknowledgement to the source's application; a token taken by a
    transfer and its packet sent. -/
inductive Delivered (s : State) : State → Prop
  | refused : Delivered s s
  | core {c : Core} : Prims H s.core c → Delivered s { s with core := c }
  | recv (p : Packet) (π : Proof) (h : Nat) (t : String) {a : Apps} {ack : Data} :
      s.core.RecvOk H p π h → p.dst = s.core.name → appOnRecv Hc s.apps p t = (a, .ok ack) →
      Delivered s { core := ((s.core.recvWrites H p).1.writeAck H p ack).1, apps := a,
                    cbLog := s.cbLog ++ [⟨"recv", p.port, p.key⟩] }
  | ack (p : Packet) (a : Data) (π : Proof) (h : Nat) :
      s.core.AckOk H p a π h → p.src = s.core.name →
      Delivered s { core := (s.core.ackWrites H p a).1, apps := (appOnAck Hc s.apps p a).1,
                    cbLog := s.cbLog ++ [⟨"ack", p.port, p.key⟩] }
  | nftSend (cls id : Str) (sender : Addr) (away : Bool) (pkt : Packet) {a : Apps} :
      nftSendToken s.apps cls id sender away = (a, .ok) →
      Delivered s { s with apps := a, core := (s.core.sendPacket H pkt).1 }
  | mtSend (cls id : Str) (amt : Nat) (sender : Addr) (away : Bool) (pkt : Packet) {a : Apps} :
      mtSendToken s.apps cls id amt sender away = (a, .ok) →
      Delivered s { s with apps := a, core := (s.core.sendPacket H pkt).1 }

theorem recvWrites_res (s : Core) (p : Packet) :
    (s.recvWrites H p).2 = .ok ∨ (s.recvWrites H p).2 = .err .unauthorized := by
  rw [Core.recvWrites_eq]
  cases p.relay == s.name && !s.forwards p
  · exact .inl rfl
  · exact .inr rfl

theorem msgRecvPacket_delivered (s : State) (p : Packet) (π : Proof) (h : Nat) (t : String)
    (hok : (msgRecvPacket H Hc s p π h t).2 = .ok) :
    s.core.RecvOk H p π h ∧ Delivered H Hc s (msgRecvPacket H Hc s p π h t).1 := by
  unfold msgRecvPacket at hok ⊢
  rcases s.core.recvPacket_cases H p π h with ⟨hrecv, e⟩ | ⟨_, e', hcls, e⟩
  · refine ⟨hrecv, ?_⟩
    have hp : Prims H s.core (s.core.recvWrites H p).1 := e ▸ .single H (.recv _ _ _ _)
    have hname : (s.core.recvWrites H p).1.name = s.core.name := by rw [Core.recvWrites_eq]
    have hd := fun a ack => Delivered.recv (Hc := Hc) (a := a) (ack := ack) p π h t hrecv
    have hres := recvWrites_res H s.core p
    rw [e] at hok ⊢
    -- all that is needed of `recvWrites` is stated above: the model's `match` reduces on an opaque pair only
    generalize s.core.recvWrites H p = r at hok hp hname hd hres ⊢
    obtain ⟨c, r⟩ := r
    rcases hres with rfl | rfl
    · dsimp only at hok ⊢
      by_cases hdst : (p.dst == c.name) = true
      · rw [if_pos hdst] at hok ⊢
        by_cases hr : (!routed p.port) = true
        · rw [if_pos hr] at hok; cases hok
        rw [if_neg hr] at hok ⊢
        rcases ha : appOnRecv Hc s.apps p t with ⟨a, e | ack⟩
        · rw [ha] at hok; cases hok
        · exact hd a ack (hname ▸ beq_iff_eq.mp hdst) ha
      · rw [if_neg hdst]; exact .core hp
    · exact .core (.step hp (.writeAck _ _ _))
  · rw [e] at hok
    rcases hcls with rfl | rfl | rfl | rfl <;> cases hok

theorem msgAcknowledgement_delivered (s : State) (p : Packet) (a : Data) (π : Proof) (h : Nat)
    (hok : (msgAcknowledgement H Hc s p a π h).2 = .ok) :
    s.core.AckOk H p a π h ∧ Delivered H Hc s (msgAcknowledgement H Hc s p a π h).1 := by
  unfold msgAcknowledgement at hok ⊢
  by_cases hr : (p.src == s.core.name && !routed p.port) = true
  · rw [if_pos hr] at hok; cases hok
  rw [if_neg hr] at hok ⊢
  rcases s.core.acknowledgePacket_cases H p a π h with ⟨hack, e⟩ | ⟨_, e', e⟩
  · refine ⟨hack, ?_⟩
    have hp : Prims H s.core (s.core.ackWrites H p a).1 := e ▸ .single H (.ack _ _ _ _ _)
    have hd := Delivered.ack (Hc := Hc) p a π h hack
    rw [e] at hok ⊢
    generalize s.core.ackWrites H p a = r at hok hp hd ⊢
    rcases r with ⟨c, _ | e⟩
    · dsimp only
      by_cases hsrc : (p.src == s.core.name) = true
      · rw [if_pos hsrc]; exact hd (beq_iff_eq.mp hsrc)
      · rw [if_neg hsrc]; exact .core hp
    · cases hok
  · rw [e] at hok; cases hok

theorem handle_delivered (s : State) (m : Msg) (hok : (handle H Hc s m).2 = .ok) :
    Delivered H Hc s (handle H Hc s m).1 := by
  cases m with
  | recvPacket p π h t => exact (msgRecvPacket_delivered H Hc s p π h t hok).2
  | acknowledgement p a π h => exact (msgAcknowledgement_delivered H Hc s p a π h hok).2
  | cleanPacket cp => exact .core (.single H (.clean _ _))
  | recvCleanPacket cp π h => exact .core (.single H (.recvClean _ _ _ _))
  | nftTransfer cls id sender receiver dst relay dc =>
    revert hok
    dsimp only [handle, sendNftTransfer]
    by_cases hv : (!addrValid sender) = true
    · rw [if_pos hv]; exact nofun
    rw [if_neg hv]
    rcases nftSendPre s cls id dst with e | ⟨full, away⟩
    · exact nofun
    dsimp only
    rcases ht : nftSendToken s.apps cls id sender away with ⟨a, _ | e⟩
    · exact fun _ => .nftSend cls id sender away _ ht
    · exact nofun
  | mtTransfer cls id sender receiver dst relay dc amt md =>
    revert hok
    dsimp only [handle, sendMtTransfer]
    by_cases hv : (!addrValid sender) = true
    · rw [if_pos hv]; exact nofun
    rw [if_neg hv]
    rcases mtSendPre s cls id dst with e | ⟨full, away⟩
    · exact nofun
    dsimp only
    rcases ht : mtSendToken s.apps cls id amt sender away with ⟨a, _ | e⟩
    · exact fun _ => .mtSend cls id amt sender away _ ht
    · exact nofun

theorem deliver_delivered (s : State) (m : Msg) : Delivered H Hc s (deliver H Hc s m).1 := by
  rcases deliver_cases H Hc s m with ⟨_, he⟩ | ⟨_, hok, he⟩ <;> rw [he]
  · exact .refused
  · exact handle_delivered H Hc s m hok

theorem Delivered.prims {s t : State} (h : Delivered H Hc s t) : Prims H s.core t.core := by
  cases h with
  | refused => exact .refl _
  | core h => exact h
  | recv p π h t hok => exact .step (Core.recvPacket_of_ok H hok ▸ .single H (.recv _ _ _ _)) (.writeAck _ _ _)
  | ack p a π h hok => exact Core.acknowledgePacket_of_ok H hok ▸ .single H (.ack _ _ _ _ _)
  | nftSend => exact .single H (.send _ _)
  | mtSend => exact .single H (.send _ _)

theorem deliver_recv_ok (s : State) (p : Packet) (π : Proof) (h : Nat) (t : String)
    (hok : (deliver H Hc s (.recvPacket p π h t)).2 = .ok) :
    Core.RecvOk H s.core p π h := by
  rcases deliver_cases H Hc s (.recvPacket p π h t) with ⟨_, he⟩ | ⟨_, hh, _⟩
  · rw [he] at hok; cases hok
  · exact (msgRecvPacket_delivered H Hc s p π h t hh).1

theorem deliver_ack_ok (s : State) (p : Packet) (a : Data) (π : Proof) (h : Nat)
    (hok : (deliver H Hc s (.acknowledgement p a π h)).2 = .ok) :
    Core.AckOk H s.core p a π h := by
  rcases deliver_cases H Hc s (.acknowledgement p a π h) with ⟨_, he⟩ | ⟨_, hh, _⟩
  · rw [he] at hok; cases hok
  · exact (msgAcknowledgement_delivered H Hc s p a π h hh).1

end Tibc
