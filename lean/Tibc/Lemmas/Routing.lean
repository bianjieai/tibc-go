import Tibc.Routing.Rules
/- What the rule checks and matchers of `Routing/Rules` say, as propositions. -/
namespace Tibc.Routing

theorem fieldOk_iff (f : Str) :
    fieldOk f = true ↔ f = ['*'] ∨ (1 ≤ f.length ∧ f.length ≤ 64 ∧ ∀ ch ∈ f, isIdChar ch = true) := by
  simp only [fieldOk, Bool.or_eq_true, Bool.and_eq_true, decide_eq_true_eq, beq_iff_eq, List.all_eq_true, and_assoc]

theorem fieldMatch_iff (f x : Str) : fieldMatch f x = true ↔ f = ['*'] ∨ f = x := by
  simp only [fieldMatch, Bool.or_eq_true, beq_iff_eq]

theorem ruleOk_iff (r : Str) :
    ruleOk r = true ↔ ∃ a b c, splitOnChar ',' r = [a, b, c] ∧ fieldOk a = true ∧ fieldOk b = true ∧ fieldOk c = true := by
  fun_cases ruleOk r with
  | case1 a b c h => simp only [h, List.cons.injEq, and_true, Bool.and_eq_true, and_assoc, exists_and_left, exists_eq_left']
  | case2 h => exact ⟨fun e => Bool.noConfusion e, fun ⟨a, b, c, e, _⟩ => (h a b c e).elim⟩

theorem ruleMatch_iff (r s d p : Str) :
    ruleMatch r s d p = true ↔ ∃ a b c, splitOnChar ',' r = [a, b, c] ∧
      fieldMatch a s = true ∧ fieldMatch b d = true ∧ fieldMatch c p = true := by
  fun_cases ruleMatch r s d p with
  | case1 a b c h => simp only [h, List.cons.injEq, and_true, Bool.and_eq_true, and_assoc, exists_and_left, exists_eq_left']
  | case2 h => exact ⟨fun e => Bool.noConfusion e, fun ⟨a, b, c, e, _⟩ => (h a b c e).elim⟩

theorem setRules_eq_some (rules : List Str) : setRules rules = some rules ↔ rules.all ruleOk = true := by
  unfold setRules
  split <;> simp [*]

end Tibc.Routing
