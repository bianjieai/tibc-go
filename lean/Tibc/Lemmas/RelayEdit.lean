import Tibc.Lemmas.RelayEditWitness
/-
  The NFT and the MT relay-edit history of `Lemmas/RelayEditWitness`, evaluated by the kernel once each;
  C04, C05 and C06 state what they show.
-/
namespace Tibc.RelayEdit

theorem nftHistory_outcome :
    results nftHistory = List.replicate 13 Res.ok ∧
    (nftWorld "A").apps.nft.owner ("dog".toList, "rex".toList) = some "alice" ∧
    (nftWorld "C").apps.nft.owner (ibcClass id "nft/A/C/dog".toList, "rex".toList) = some "carol" := by
  decide +kernel

theorem mtHistory_outcome :
    results mtHistory = List.replicate 13 Res.ok ∧
    (mtWorld "A").apps.mt.supply ("gold".toList, "bar".toList) = 9 ∧
    (mtWorld "A").apps.mt.bal ("gold".toList, "bar".toList, "alice") = 9 ∧
    (mtWorld "A").apps.mt.bal ("gold".toList, "bar".toList, mtModAddr) = 0 ∧
    (mtWorld "C").apps.mt.bal (ibcClass id "mt/A/C/gold".toList, "bar".toList, "carol") = 4 := by
  decide +kernel

end Tibc.RelayEdit
