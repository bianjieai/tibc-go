import Tibc.Base.Core
/-
  Lemmas about `splitOnChar` / `joinWith` (Go `strings.Split` / `strings.Join`), for any separator.
-/
namespace Tibc

theorem splitOnChar_ne_nil (sep : Char) (s : Str) : splitOnChar sep s ≠ [] := by
  fun_induction splitOnChar sep s <;> simp [*]

/-- `strings.Join(strings.Split(s, sep), sep) == s` -/
theorem join_split (sep : Char) (s : Str) : joinWith sep (splitOnChar sep s) = s := by
  fun_induction splitOnChar sep s with
  | case1 => rfl
  | case2 cs ih =>
    obtain ⟨f, fs, hs⟩ := List.exists_cons_of_ne_nil (splitOnChar_ne_nil sep cs)
    rw [hs] at ih ⊢; rw [joinWith, ih]; rfl
  | case3 c cs _ hnil => exact absurd hnil (splitOnChar_ne_nil _ _)
  | case4 c cs _ f fs hs ih =>
    rw [hs] at ih
    cases fs with
    | nil => exact congrArg (c :: ·) ih
    | cons g gs => rw [← ih]; rfl

theorem split_nosep (sep : Char) (a : Str) (h : sep ∉ a) : splitOnChar sep a = [a] := by
  fun_induction splitOnChar sep a with
  | case1 => rfl
  | case2 cs => exact absurd List.mem_cons_self h
  | case3 c cs _ hnil => exact absurd hnil (splitOnChar_ne_nil _ _)
  | case4 c cs _ f fs hs ih => cases hs.symm.trans (ih fun e => h (List.mem_cons_of_mem _ e)); rfl

theorem split_append (sep : Char) (a b : Str) (h : sep ∉ a) :
    splitOnChar sep (a ++ sep :: b) = a :: splitOnChar sep b := by
  induction a with
  | nil => simp [splitOnChar]
  | cons c cs ih =>
    rw [List.cons_append, splitOnChar, if_neg fun e : c = sep => h (e ▸ List.mem_cons_self), ih fun e => h (List.mem_cons_of_mem _ e)]

/-- `strings.Split(strings.Join(parts, sep), sep) == parts` when no part contains the separator -/
theorem split_join (sep : Char) (parts : List Str) (hne : parts ≠ []) (h : ∀ x ∈ parts, sep ∉ x) :
    splitOnChar sep (joinWith sep parts) = parts := by
  fun_induction joinWith sep parts with
  | case1 => exact absurd rfl hne
  | case2 x => exact split_nosep sep x (h x (by simp))
  | case3 x y ys ih => rw [split_append sep x _ (h x (by simp)), ih (by simp) (fun z hz => h z (by simp [hz]))]

theorem split_field_nosep (sep : Char) (s : Str) (f : Str) (h : f ∈ splitOnChar sep s) : sep ∉ f := by
  fun_induction splitOnChar sep s generalizing f with
  | case1 => cases List.mem_singleton.mp h; exact List.not_mem_nil
  | case2 cs ih =>
    rcases List.mem_cons.mp h with rfl | h
    · exact List.not_mem_nil
    · exact ih f h
  | case3 c cs _ hnil => exact absurd hnil (splitOnChar_ne_nil _ _)
  | case4 c cs hc g gs hs ih =>
    rw [hs] at ih
    rcases List.mem_cons.mp h with rfl | h
    · intro hm
      rcases List.mem_cons.mp hm with e | hm
      · exact hc e.symm
      · exact ih g List.mem_cons_self hm
    · exact ih f (List.mem_cons_of_mem _ h)

theorem exists_snoc {α : Type} (xs : List α) (h : xs ≠ []) : ∃ init l, xs = init ++ [l] :=
  ⟨_, _, (List.dropLast_concat_getLast h).symm⟩

theorem split_join4 {sep : Char} {a b c d : Str} (ha : sep ∉ a) (hb : sep ∉ b) (hc : sep ∉ c) (hd : sep ∉ d) :
    splitOnChar sep (joinWith sep [a, b, c, d]) = [a, b, c, d] := by
  show splitOnChar sep (a ++ sep :: (b ++ sep :: (c ++ sep :: d))) = _
  rw [split_append _ _ _ ha, split_append _ _ _ hb, split_append _ _ _ hc, split_nosep _ _ hd]

theorem exists_fields (sep : Char) (q : Str) :
    ∃ init l, splitOnChar sep q = init ++ [l] ∧ joinWith sep (init ++ [l]) = q ∧ ∀ x ∈ init ++ [l], sep ∉ x := by
  obtain ⟨init, l, hs⟩ := exists_snoc _ (splitOnChar_ne_nil sep q)
  exact ⟨init, l, hs, hs ▸ join_split sep q, hs ▸ split_field_nosep sep q⟩

theorem joinWith_snoc (sep : Char) (xs : List Str) (y : Str) (h : xs ≠ []) :
    joinWith sep (xs ++ [y]) = joinWith sep xs ++ sep :: y := by
  fun_induction joinWith sep xs with
  | case1 => exact absurd rfl h
  | case2 x => rfl
  | case3 x x' xs' ih =>
    show x ++ sep :: joinWith sep (x' :: xs' ++ [y]) = _
    rw [ih (List.cons_ne_nil _ _), List.append_assoc]; rfl

theorem hasPrefix_join (sep : Char) (pfx : Str) (rest : List Str) :
    hasPrefix pfx (joinWith sep (pfx :: rest)) = true := by
  rw [hasPrefix, List.isPrefixOf_iff_prefix]
  cases rest with
  | nil => exact List.prefix_refl pfx
  | cons y ys => exact List.prefix_append pfx _

end Tibc
