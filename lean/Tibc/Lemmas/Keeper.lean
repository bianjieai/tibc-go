import Tibc.Lemmas.Setters
/-
  The packet keeper: a case characterisation of every keeper function ("refused and unchanged" or
  "all checks passed and the result is the write phase") and every write phase as one record. The
  model inlines the write phases of `SendPacket`, `WriteAcknowledgement` and `CleanPacket`: they
  are defined here (`sendWrites`, `writeAckWrites`, `cleanWrites`, states). `recvWrites`, `ackWrites`,
  `recvCleanWrites` are the model's functions (state and result); their record form is `…Writes_eq`.
-/
namespace Tibc
namespace Core

variable (H : Data → Digest)

/-- a check of a validator: if the answer is an error, it is this check's or a later one's -/
theorem check_err {c : Prop} [Decidable c] {e e' : Err} {r : Res} (h : (if c then .err e else r) = .err e')
    (hr : r = .err e' → e' = e) : e' = e := by
  by_cases hc : c
  · rw [if_pos hc] at h; exact (Res.err.inj h).symm
  · rw [if_neg hc] at h; exact hr h

theorem check_ok {c : Prop} [Decidable c] {e : Err} {r : Res} : (if c then .err e else r) = .ok ↔ ¬ c ∧ r = .ok := by
  by_cases hc : c
  · rw [if_pos hc]; exact ⟨fun h => (nomatch h), fun h => absurd hc h.1⟩
  · rw [if_neg hc]; exact ⟨fun h => ⟨hc, h⟩, (·.2)⟩

/-- `r.1 ≠ s ∨ r.2 = .ok` is how the `…_only_after_…` / `…_requires_…` theorems say that a request
    took effect; a refused request (`r = (s, .err e)`) did not -/
theorem refused_no_effect {σ : Type} {s : σ} {r : σ × Res} {e : Err} (he : r = (s, .err e)) (hch : r.1 ≠ s ∨ r.2 = .ok) :
    False := by
  rw [he] at hch
  rcases hch with h | h
  · exact h rfl
  · cases h

theorem verify_iff (cl : Client) (q : Chain) (h : Nat) (π : Proof) (k : ProvKey) (v : PVal) :
    verify cl q h π k v = true ↔
      h ≤ cl.latest ∧ ∃ sn, cl.cons h = some sn ∧ π = Proof.honest q h k ∧ sn.holds k v = true := by
  unfold verify
  cases cl.cons h with
  | none => simp
  | some sn => simp

/-- chain `q`'s light client is Active and has recorded, at height `h ≤ latest`, a state that holds
    `v` under `k`; `π` is `q`'s genuine proof for exactly that key at exactly that height -/
def Proven (s : Core) (q : Chain) (h : Nat) (π : Proof) (k : ProvKey) (v : PVal) : Prop :=
  ∃ cl sn, s.clients q = some cl ∧ cl.active s.now = true ∧ h ≤ cl.latest ∧ cl.cons h = some sn ∧
    π = Proof.honest q h k ∧ sn.holds k v = true

/-- the proof check shared by `RecvPacket`, `AcknowledgePacket` and `RecvCleanPacket`: client
    lookup, status, verification, then the write phase `W` -/
theorem proofGate_cases (s : Core) (q : Chain) (h : Nat) (π : Proof) (k : ProvKey) (v : PVal) (W : Core × Res) :
    (Proven s q h π k v ∧
      (match s.clients q with
        | none => (s, Res.err .clientNotFound)
        | some cl => if !cl.active s.now then (s, .err .clientNotActive)
                     else if !verify cl q h π k v then (s, .err .verify) else W) = W) ∨
    (¬ Proven s q h π k v ∧ ∃ e, (e = .clientNotFound ∨ e = .clientNotActive ∨ e = .verify) ∧
      (match s.clients q with
        | none => (s, Res.err .clientNotFound)
        | some cl => if !cl.active s.now then (s, .err .clientNotActive)
                     else if !verify cl q h π k v then (s, .err .verify) else W) = (s, .err e)) := by
  cases hcl : s.clients q with
  | none => exact .inr ⟨fun ⟨_, _, h, _⟩ => (nomatch hcl.symm.trans h), _, .inl rfl, rfl⟩
  | some cl =>
    dsimp only
    cases hact : cl.active s.now with
    | false =>
      refine .inr ⟨fun ⟨_, _, h, ha, _⟩ => ?_, _, .inr (.inl rfl), rfl⟩
      cases hcl.symm.trans h; rw [hact] at ha; cases ha
    | true =>
      cases hver : verify cl q h π k v with
      | false =>
        refine .inr ⟨fun ⟨_, sn, h1, _, hle, hsn, hπ, hh⟩ => ?_, _, .inr (.inr rfl), rfl⟩
        cases hcl.symm.trans h1
        rw [(verify_iff cl q h π k v).mpr ⟨hle, sn, hsn, hπ, hh⟩] at hver; cases hver
      | true =>
        obtain ⟨hle, sn, hsn, hπ, hh⟩ := (verify_iff cl q h π k v).mp hver
        exact .inl ⟨⟨cl, sn, hcl, hact, hle, hsn, hπ, hh⟩, rfl⟩

def SendOk (s : Core) (p : Packet) : Prop :=
  packetBasic p = true ∧ p.src = s.name ∧
  (s.clients (sendTarget p)).isSome = true ∧
  p.seq = s.ps.nextSend p.pair

theorem SendOk.src {s : Core} {p : Packet} (h : SendOk s p) : p.src = s.name := h.2.1

theorem SendOk.seq {s : Core} {p : Packet} (h : SendOk s p) : p.seq = s.ps.nextSend p.pair := h.2.2.2

def sendWrites (s : Core) (p : Packet) : Core :=
  { s with ps := { s.ps with nextSend := upd s.ps.nextSend p.pair (s.ps.nextSend p.pair + 1),
                             commit := upd s.ps.commit p.key (some (H p.data)) },
           sent := s.sent ++ [(p.key, p.data)],
           evlog := s.evlog ++ [pktEvent "send_packet" p] }

theorem sendPacket_cases (s : Core) (p : Packet) :
    (SendOk s p ∧ sendPacket H s p = (sendWrites H s p, .ok)) ∨
    (¬ SendOk s p ∧ ∃ e, sendPacket H s p = (s, .err e)) := by
  unfold sendPacket SendOk
  cases packetBasic p with
  | false => exact .inr ⟨fun h => (nomatch h.1), _, rfl⟩
  | true =>
  cases h2 : p.src != s.name with
  | true => exact .inr ⟨fun h => bne_iff_ne.mp h2 h.2.1, _, rfl⟩
  | false =>
  cases s.clients (sendTarget p) with
  | none => exact .inr ⟨fun h => (nomatch h.2.2.1), _, rfl⟩
  | some cl =>
  dsimp only
  cases h4 : p.seq != s.ps.nextSend p.pair with
  | true => exact .inr ⟨fun h => bne_iff_ne.mp h4 h.2.2.2, _, rfl⟩
  | false =>
    exact .inl ⟨⟨rfl, bne_eq_false_iff_eq.mp h2, rfl, bne_eq_false_iff_eq.mp h4⟩,
      by dsimp only [emit, setCommit, setNextSend, sendWrites]; rfl⟩

theorem sendPacket_err (s : Core) (p : Packet) (e : Err) (h : (sendPacket H s p).2 = .err e) :
    (sendPacket H s p).1 = s := by
  rcases sendPacket_cases H s p with ⟨_, h'⟩ | ⟨_, e', h'⟩
  · rw [h'] at h; cases h
  · rw [h']

/-- all checks `RecvPacket` performs before its first write -/
def RecvOk (s : Core) (p : Packet) (π : Proof) (h : Nat) : Prop :=
  validatePacket s p = .ok ∧ s.ps.receipt p.key = false ∧
  ∃ cl sn, s.clients (recvProver s p) = some cl ∧ cl.active s.now = true ∧ h ≤ cl.latest ∧ cl.cons h = some sn ∧
    π = Proof.honest (recvProver s p) h (.commit p.key) ∧
    sn.commit p.key = some (H p.data)

/-- what the prover's light client showed: the packet's commitment, in a state it recorded at the proof height -/
theorem RecvOk.shown {s : Core} {p : Packet} {π : Proof} {h : Nat} (hok : RecvOk H s p π h) :
    ∃ cl sn, s.clients (recvProver s p) = some cl ∧ cl.cons h = some sn ∧ sn.commit p.key = some (H p.data) :=
  let ⟨_, _, cl, sn, hcl, _, _, hcons, _, hsn⟩ := hok
  ⟨cl, sn, hcl, hcons, hsn⟩

theorem validatePacket_ok_iff (s : Core) (p : Packet) :
    validatePacket s p = .ok ↔
      packetBasic p = true ∧ (p.relay = s.name ∨ p.dst = s.name ∨ p.src = s.name) ∧ s.ps.clean p.pair < p.seq := by
  unfold validatePacket
  rw [check_ok, check_ok, check_ok]
  simp only [Bool.not_eq_true', Bool.not_eq_false, Bool.and_eq_true, bne_iff_ne, Nat.not_le, and_true,
    Decidable.not_and_iff_not_or_not, Decidable.not_not, or_assoc]

theorem validatePacket_err (s : Core) (p : Packet) (e : Err) (h : validatePacket s p = .err e) :
    e = .invalidPacket :=
  check_err h fun h => check_err h fun h => check_err h (nomatch ·)

theorem recvPacket_cases (s : Core) (p : Packet) (π : Proof) (h : Nat) :
    (RecvOk H s p π h ∧ recvPacket H s p π h = recvWrites H s p) ∨
    (¬ RecvOk H s p π h ∧ ∃ e, (e = .invalidPacket ∨ e = .clientNotFound ∨ e = .clientNotActive ∨ e = .verify) ∧
        recvPacket H s p π h = (s, .err e)) := by
  unfold recvPacket RecvOk
  cases hv : validatePacket s p with
  | err e => exact .inr ⟨fun h => (nomatch h.1), e, .inl (validatePacket_err s p e hv), rfl⟩
  | ok =>
    cases s.ps.receipt p.key with
    | true => exact .inr ⟨fun h => (nomatch h.2.1), _, .inl rfl, rfl⟩
    | false =>
      -- `Proven`, unfolded, is the last conjunct of `RecvOk`
      rcases proofGate_cases s (recvProver s p) h π (.commit p.key) (.digest (H p.data)) (recvWrites H s p) with
        ⟨hp, e⟩ | ⟨hp, e', he', e⟩ <;> simp only [Proven, Snapshot.holds, beq_iff_eq] at hp
      · exact .inl ⟨⟨rfl, rfl, hp⟩, e⟩
      · exact .inr ⟨fun h => hp h.2.2, e', .inr he', e⟩

theorem recvPacket_of_ok {s : Core} {p : Packet} {π : Proof} {h : Nat} (hok : RecvOk H s p π h) :
    recvPacket H s p π h = recvWrites H s p :=
  ((recvPacket_cases H s p π h).resolve_right fun hn => hn.1 hok).2

/-- does the relay branch of `RecvPacket` re-commit the packet: this chain is the relay chain, a
    routing rule admits the packet and the destination's client exists -/
def forwards (s : Core) (p : Packet) : Bool :=
  p.relay == s.name && authenticate s p.src p.dst p.port && (s.clients p.dst).isSome

theorem forwards_iff (s : Core) (p : Packet) :
    forwards s p = true ↔
      p.relay = s.name ∧ authenticate s p.src p.dst p.port = true ∧ (s.clients p.dst).isSome = true := by
  simp only [forwards, Bool.and_eq_true, beq_iff_eq, and_assoc]

/-- the write phase of `RecvPacket` as one record. (After `rw [recvWrites_eq]` the field
    projections of the record do not reduce by themselves: `show`, `dsimp only` or `exact` them.) -/
theorem recvWrites_eq (s : Core) (p : Packet) :
    recvWrites H s p =
      ({ s with
          ps := { s.ps with receipt := upd s.ps.receipt p.key true,
                            commit := if forwards s p then upd s.ps.commit p.key (some (H p.data)) else s.ps.commit },
          evlog := s.evlog ++ pktEvent "recv_packet" p :: if forwards s p then [pktEvent "send_packet" p] else [] },
       if p.relay == s.name && !forwards s p then .err .unauthorized else .ok) := by
  dsimp only [recvWrites, forwards, authenticate, emit, setCommit, setReceipt]
  rcases Bool.eq_false_or_eq_true (p.relay == s.name) with hr | hr <;> simp only [hr]
  · rcases Bool.eq_false_or_eq_true (Routing.authenticate s.rules p.src.toList p.dst.toList p.port.toList) with ha | ha <;>
      simp only [ha]
    · cases s.clients p.dst with
      | none => rfl
      | some _ => rw [List.append_assoc]; rfl
    · rfl
  · rfl

def WriteAckOk (s : Core) (p : Packet) (ack : Data) : Prop :=
  ack.isEmpty = false ∧ s.ps.ack p.key = none ∧
  (s.clients (writeAckTarget s p)).isSome = true

def writeAckWrites (s : Core) (p : Packet) (ack : Data) : Core :=
  { s with ps := { s.ps with ack := upd s.ps.ack p.key (some (H ack)),
                             maxAck := upd s.ps.maxAck p.pair (if p.seq > s.ps.maxAck p.pair then p.seq else s.ps.maxAck p.pair) },
           ackLog := s.ackLog ++ [(p.key, ack)],
           evlog := s.evlog ++ [pktEvent "write_acknowledgement" p ack] }

theorem writeAck_cases (s : Core) (p : Packet) (ack : Data) :
    (WriteAckOk s p ack ∧ writeAck H s p ack = (writeAckWrites H s p ack, .ok)) ∨
    (¬ WriteAckOk s p ack ∧ ∃ e, writeAck H s p ack = (s, .err e)) := by
  unfold writeAck WriteAckOk
  cases ack.isEmpty with
  | true => exact .inr ⟨fun h => (nomatch h.1), _, rfl⟩
  | false =>
  cases s.ps.ack p.key with
  | some d => exact .inr ⟨fun h => (nomatch h.2.1), _, rfl⟩
  | none =>
  cases s.clients (writeAckTarget s p) with
  | none => exact .inr ⟨fun h => (nomatch h.2.2), _, rfl⟩
  | some cl => exact .inl ⟨⟨rfl, rfl, rfl⟩, by dsimp only [emit, setAck, setMaxAck, writeAckWrites]; rfl⟩

def AckOk (s : Core) (p : Packet) (ack : Data) (π : Proof) (h : Nat) : Prop :=
  validatePacket s p = .ok ∧ s.ps.commit p.key = some (H p.data) ∧
  ∃ cl sn, s.clients (ackProver s p) = some cl ∧ cl.active s.now = true ∧ h ≤ cl.latest ∧ cl.cons h = some sn ∧
    π = Proof.honest (ackProver s p) h (.ack p.key) ∧
    sn.ack p.key = some (H ack)

theorem AckOk.shown {s : Core} {p : Packet} {ack : Data} {π : Proof} {h : Nat} (hok : AckOk H s p ack π h) :
    ∃ cl sn, s.clients (ackProver s p) = some cl ∧ cl.cons h = some sn ∧ sn.ack p.key = some (H ack) :=
  let ⟨_, _, cl, sn, hcl, _, _, hcons, _, hsn⟩ := hok
  ⟨cl, sn, hcl, hcons, hsn⟩

theorem acknowledgePacket_cases (s : Core) (p : Packet) (ack : Data) (π : Proof) (h : Nat) :
    (AckOk H s p ack π h ∧ acknowledgePacket H s p ack π h = ackWrites H s p ack) ∨
    (¬ AckOk H s p ack π h ∧ ∃ e, acknowledgePacket H s p ack π h = (s, .err e)) := by
  unfold acknowledgePacket AckOk
  cases validatePacket s p with
  | err e => exact .inr ⟨fun h => (nomatch h.1), e, rfl⟩
  | ok =>
    by_cases hc : s.ps.commit p.key = some (H p.data)
    · rw [if_neg (by rw [hc]; simp)]
      rcases proofGate_cases s (ackProver s p) h π (.ack p.key) (.digest (H ack)) (ackWrites H s p ack) with
        ⟨hp, e⟩ | ⟨hp, e', _, e⟩ <;> simp only [Proven, Snapshot.holds, beq_iff_eq] at hp
      · exact .inl ⟨⟨rfl, hc, hp⟩, e⟩
      · exact .inr ⟨fun h => hp h.2.2, e', e⟩
    · exact .inr ⟨fun h => hc h.2.1, _, if_pos (by simpa using hc)⟩

theorem acknowledgePacket_of_ok {s : Core} {p : Packet} {ack : Data} {π : Proof} {h : Nat} (hok : AckOk H s p ack π h) :
    acknowledgePacket H s p ack π h = ackWrites H s p ack :=
  ((acknowledgePacket_cases H s p ack π h).resolve_right fun hn => hn.1 hok).2

/-- does the relay branch of `AcknowledgePacket` pass the acknowledgement on towards the source -/
def passesAck (s : Core) (p : Packet) : Bool := p.relay == s.name && (s.clients p.src).isSome

theorem passesAck_iff (s : Core) (p : Packet) :
    passesAck s p = true ↔ p.relay = s.name ∧ (s.clients p.src).isSome = true := by
  simp only [passesAck, Bool.and_eq_true, beq_iff_eq]

theorem ackWrites_eq (s : Core) (p : Packet) (a : Data) :
    ackWrites H s p a =
      ({ s with
          ps := { s.ps with commit := upd s.ps.commit p.key none,
                            maxAck := upd s.ps.maxAck p.pair (if p.seq > s.ps.maxAck p.pair then p.seq else s.ps.maxAck p.pair),
                            ack := if passesAck s p then upd s.ps.ack p.key (some (H a)) else s.ps.ack },
          evlog := s.evlog ++ pktEvent "acknowledge_packet" p a ::
            if passesAck s p then [pktEvent "write_acknowledgement" p a] else [] },
       if p.relay == s.name && !passesAck s p then .err .clientNotFound else .ok) := by
  dsimp only [ackWrites, passesAck, emit, setAck, setMaxAck, delCommit]
  rcases Bool.eq_false_or_eq_true (p.relay == s.name) with hr | hr <;> simp only [hr]
  · cases s.clients p.src with
    | none => rfl
    | some _ => rw [List.append_assoc]; rfl
  · rfl

def RecvCleanOk (s : Core) (cp : CleanPacket) (π : Proof) (h : Nat) : Prop :=
  validateClean s cp = .ok ∧
  ∃ cl sn, s.clients (cleanProver s cp) = some cl ∧ cl.active s.now = true ∧ h ≤ cl.latest ∧ cl.cons h = some sn ∧
    π = Proof.honest (cleanProver s cp) h (.clean cp.pair) ∧
    cp.seq ≠ 0 ∧ sn.clean cp.pair = cp.seq

theorem recvCleanPacket_cases (s : Core) (cp : CleanPacket) (π : Proof) (h : Nat) :
    (RecvCleanOk s cp π h ∧ recvCleanPacket s cp π h = recvCleanWrites s cp) ∨
    (¬ RecvCleanOk s cp π h ∧ ∃ e, recvCleanPacket s cp π h = (s, .err e)) := by
  unfold recvCleanPacket RecvCleanOk
  cases validateClean s cp with
  | err e => exact .inr ⟨fun h => (nomatch h.1), e, rfl⟩
  | ok =>
    rcases proofGate_cases s (cleanProver s cp) h π (.clean cp.pair) (.seq cp.seq) (recvCleanWrites s cp) with
      ⟨hp, e⟩ | ⟨hp, e', _, e⟩ <;>
      simp only [Proven, Snapshot.holds, Bool.and_eq_true, decide_eq_true_eq, beq_iff_eq] at hp
    · exact .inl ⟨⟨rfl, hp⟩, e⟩
    · exact .inr ⟨fun h => hp h.2, e', e⟩

theorem recvCleanPacket_of_ok {s : Core} {cp : CleanPacket} {π : Proof} {h : Nat} (hok : RecvCleanOk s cp π h) :
    recvCleanPacket s cp π h = recvCleanWrites s cp :=
  ((recvCleanPacket_cases s cp π h).resolve_right fun hn => hn.1 hok).2

/-- one more round of a clean-up loop over a store `m`: with slot `start` cleared (by the round, or
    because it was clear already), clearing `(start, start + n]` has cleared `[start, start + n]` -/
theorem clearRange_step {α : Type} (m m' : PKey → α) (z : α) (src dst : Chain) (start n : Nat)
    (hz : m' ⟨src, dst, start⟩ = z) (hm' : ∀ k, k ≠ ⟨src, dst, start⟩ → m' k = m k) :
    (fun k : PKey => if k.src = src ∧ k.dst = dst ∧ start + 1 ≤ k.seq ∧ k.seq < start + 1 + n then z else m' k) =
    (fun k : PKey => if k.src = src ∧ k.dst = dst ∧ start ≤ k.seq ∧ k.seq < start + (n + 1) then z else m k) := by
  funext k
  by_cases hk : k = ⟨src, dst, start⟩
  · subst hk
    rw [hz, ite_self, if_pos ⟨rfl, rfl, Nat.le_refl _, Nat.lt_add_of_pos_right (Nat.succ_pos n)⟩]
  · rw [hm' k hk]
    refine ite_iff_congr ⟨fun ⟨a, b, c, d⟩ => ⟨a, b, by omega, by omega⟩, fun ⟨a, b, c, d⟩ => ⟨a, b, ?_, by omega⟩⟩ _ _
    have : k.seq ≠ start := fun e => hk (by cases k; simp_all)
    omega

theorem cleanAcksFrom_eq (s : Core) (src dst : Chain) (start fuel : Nat) :
    cleanAcksFrom s src dst start fuel =
      { s with ps := { s.ps with ack := fun k =>
          if k.src = src ∧ k.dst = dst ∧ start ≤ k.seq ∧ k.seq < start + fuel then none else s.ps.ack k } } := by
  induction fuel generalizing s start with
  | zero =>
    have : (fun k : PKey => if k.src = src ∧ k.dst = dst ∧ start ≤ k.seq ∧ k.seq < start + 0 then none else s.ps.ack k)
        = s.ps.ack := funext fun k => if_neg (by omega)
    rw [this]; rfl
  | succ n ih =>
    rw [cleanAcksFrom, ih]
    cases h : s.ps.ack ⟨src, dst, start⟩ with
    | some d =>
      exact congrArg (fun f => { s with ps := { s.ps with ack := f } })
        (clearRange_step s.ps.ack _ none src dst start n (upd_same ..) fun k => upd_other _ _ k _)
    | none =>
      exact congrArg (fun f => { s with ps := { s.ps with ack := f } })
        (clearRange_step s.ps.ack _ none src dst start n h fun _ _ => rfl)

theorem cleanReceiptsFrom_eq (s : Core) (src dst : Chain) (start fuel : Nat) :
    cleanReceiptsFrom s src dst start fuel =
      { s with ps := { s.ps with receipt := fun k =>
          if k.src = src ∧ k.dst = dst ∧ start ≤ k.seq ∧ k.seq < start + fuel then false else s.ps.receipt k } } := by
  induction fuel generalizing s start with
  | zero =>
    have : (fun k : PKey => if k.src = src ∧ k.dst = dst ∧ start ≤ k.seq ∧ k.seq < start + 0 then false else s.ps.receipt k)
        = s.ps.receipt := funext fun k => if_neg (by omega)
    rw [this]; rfl
  | succ n ih =>
    rw [cleanReceiptsFrom, ih]
    cases h : s.ps.receipt ⟨src, dst, start⟩ with
    | true =>
      exact congrArg (fun f => { s with ps := { s.ps with receipt := f } })
        (clearRange_step s.ps.receipt _ false src dst start n (upd_same ..) fun k => upd_other _ _ k _)
    | false =>
      exact congrArg (fun f => { s with ps := { s.ps with receipt := f } })
        (clearRange_step s.ps.receipt _ false src dst start n h fun _ _ => rfl)

theorem cleanRange_iff (src dst : Chain) (cur n : Nat) (k : PKey) :
    (k.src = src ∧ k.dst = dst ∧ cur + 1 ≤ k.seq ∧ k.seq < cur + 1 + (n - cur)) ↔
    (k.src = src ∧ k.dst = dst ∧ cur < k.seq ∧ k.seq ≤ n) := by
  constructor <;> rintro ⟨a, b, c, d⟩ <;> exact ⟨a, b, by omega, by omega⟩

/-- `cleanAcknowledgementBySeq` deletes the acknowledgements above the current clean point up to `n` -/
theorem cleanAcks_eq (s : Core) (src dst : Chain) (n : Nat) :
    cleanAcks s src dst n =
      { s with ps := { s.ps with ack := fun k =>
          if k.src = src ∧ k.dst = dst ∧ s.ps.clean ⟨src, dst⟩ < k.seq ∧ k.seq ≤ n then none else s.ps.ack k } } := by
  rw [cleanAcks, cleanAcksFrom_eq, funext fun k => ite_iff_congr (cleanRange_iff src dst _ n k) none (s.ps.ack k)]

/-- `cleanReceiptBySeq` likewise -/
theorem cleanReceipts_eq (s : Core) (src dst : Chain) (n : Nat) :
    cleanReceipts s src dst n =
      { s with ps := { s.ps with receipt := fun k =>
          if k.src = src ∧ k.dst = dst ∧ s.ps.clean ⟨src, dst⟩ < k.seq ∧ k.seq ≤ n then false else s.ps.receipt k } } := by
  rw [cleanReceipts, cleanReceiptsFrom_eq, funext fun k => ite_iff_congr (cleanRange_iff src dst _ n k) false (s.ps.receipt k)]

/-- everything except the acknowledgement store -/
structure SameButAck (s t : Core) : Prop where
  name : t.name = s.name
  clients : t.clients = s.clients
  rules : t.rules = s.rules
  sent : t.sent = s.sent
  ackLog : t.ackLog = s.ackLog
  evlog : t.evlog = s.evlog
  commit : t.ps.commit = s.ps.commit
  receipt : t.ps.receipt = s.ps.receipt
  clean : t.ps.clean = s.ps.clean
  maxAck : t.ps.maxAck = s.ps.maxAck
  nextSend : t.ps.nextSend = s.ps.nextSend

theorem cleanAcks_same (s : Core) (src dst : Chain) (n : Nat) : SameButAck s (cleanAcks s src dst n) := by
  rw [cleanAcks_eq]; exact ⟨rfl, rfl, rfl, rfl, rfl, rfl, rfl, rfl, rfl, rfl, rfl⟩

/-- everything except the receipt store -/
structure SameButReceipt (s t : Core) : Prop where
  name : t.name = s.name
  clients : t.clients = s.clients
  rules : t.rules = s.rules
  sent : t.sent = s.sent
  ackLog : t.ackLog = s.ackLog
  evlog : t.evlog = s.evlog
  commit : t.ps.commit = s.ps.commit
  ack : t.ps.ack = s.ps.ack
  clean : t.ps.clean = s.ps.clean
  maxAck : t.ps.maxAck = s.ps.maxAck
  nextSend : t.ps.nextSend = s.ps.nextSend

theorem cleanReceipts_same (s : Core) (src dst : Chain) (n : Nat) : SameButReceipt s (cleanReceipts s src dst n) := by
  rw [cleanReceipts_eq]; exact ⟨rfl, rfl, rfl, rfl, rfl, rfl, rfl, rfl, rfl, rfl, rfl⟩

/-- the scan of `validateClean` for a left-over commitment is `any` over a range of sequences -/
theorem anyCommit_eq_false (s : Core) (src dst : Chain) (start fuel : Nat) :
    anyCommit s src dst start fuel = false ↔ ∀ n, start ≤ n → n < start + fuel → s.ps.commit ⟨src, dst, n⟩ = none := by
  have e : anyCommit s src dst start fuel = (List.range' start fuel).any fun n => (s.ps.commit ⟨src, dst, n⟩).isSome := by
    induction fuel generalizing start with
    | zero => rfl
    | succ k ih => rw [anyCommit, ih, List.range'_succ, List.any_cons]
  simp only [e, List.any_eq_false, List.mem_range'_1, Option.not_isSome_iff_eq_none, and_imp]

/-- the range conditions of a clean request: strictly above the previous clean point, not above
    the highest acknowledged sequence, and no commitment left anywhere in `[cleanPoint, N]` -/
def CleanRangeOk (s : Core) (cp : CleanPacket) : Prop :=
  s.ps.clean cp.pair < cp.seq ∧ cp.seq ≤ s.ps.maxAck cp.pair ∧
  ∀ n, s.ps.clean cp.pair ≤ n → n ≤ cp.seq → s.ps.commit ⟨cp.src, cp.dst, n⟩ = none

theorem validateClean_ok_iff (s : Core) (cp : CleanPacket) :
    validateClean s cp = .ok ↔ CleanRangeOk s cp := by
  unfold validateClean CleanRangeOk
  rw [check_ok, check_ok]
  simp only [Bool.not_eq_true, anyCommit_eq_false, Bool.or_eq_false_iff, decide_eq_false_iff_not, Nat.not_le, Nat.not_lt,
    and_true, and_assoc]
  refine and_congr_right fun hlt => and_congr_right fun _ => forall_congr' fun n => imp_congr_right fun _ => ?_
  -- the scan covers `[cleanPoint, cleanPoint + (N + 1 - cleanPoint))`, which is `[cleanPoint, N]` as `cleanPoint < N`
  rw [show s.ps.clean cp.pair + (cp.seq + 1 - s.ps.clean cp.pair) = cp.seq + 1 by omega, Nat.lt_succ_iff]

theorem validateClean_err (s : Core) (cp : CleanPacket) (e : Err) (h : validateClean s cp = .err e) :
    e = .invalidClean := by
  unfold validateClean at h
  exact check_err h fun h => check_err h (nomatch ·)

def CleanOk (s : Core) (cp : CleanPacket) : Prop :=
  cp.seq ≠ 0 ∧ CleanRangeOk s { cp with src := s.name } ∧ (s.clients (cleanTarget cp)).isSome = true

theorem recvCleanWrites_eq (s : Core) (cp : CleanPacket) :
    recvCleanWrites s cp =
      ({ s with
          ps := { s.ps with
            ack := fun k => if k.src = cp.src ∧ k.dst = cp.dst ∧ s.ps.clean cp.pair < k.seq ∧ k.seq ≤ cp.seq
                            then none else s.ps.ack k,
            receipt := fun k => if k.src = cp.src ∧ k.dst = cp.dst ∧ s.ps.clean cp.pair < k.seq ∧ k.seq ≤ cp.seq
                                then false else s.ps.receipt k,
            clean := upd s.ps.clean cp.pair cp.seq },
          evlog := s.evlog ++ cleanEvent "recv_clean_packet" cp ::
            if cp.relay == s.name && (s.clients cp.dst).isSome then [cleanEvent "send_clean_packet" cp] else [] },
       if cp.relay == s.name && (s.clients cp.dst).isNone then .err .clientNotFound else .ok) := by
  rw [recvCleanWrites, cleanAcks_eq, cleanReceipts_eq]
  dsimp only [emit, setClean]
  rcases Bool.eq_false_or_eq_true (cp.relay == s.name) with hr | hr <;> simp only [hr]
  · cases s.clients cp.dst with
    | none => rfl
    | some _ => rw [List.append_assoc]; rfl
  · rfl

theorem cleanAcks_noop (s : Core) (src dst : Chain) (n : Nat) (h : n ≤ s.ps.clean ⟨src, dst⟩) :
    cleanAcks s src dst n = s := by
  rw [cleanAcks_eq, funext fun k => if_neg (fun ⟨_, _, a, b⟩ => by omega)]

theorem cleanReceipts_noop (s : Core) (src dst : Chain) (n : Nat) (h : n ≤ s.ps.clean ⟨src, dst⟩) :
    cleanReceipts s src dst n = s := by
  rw [cleanReceipts_eq, funext fun k => if_neg (fun ⟨_, _, a, b⟩ => by omega)]

/-- The write phase of `CleanPacket`. It moves the clean point *before* it runs the two clean-up
    loops, which start above the clean point they read: on the source chain they delete nothing. -/
def cleanWrites (s : Core) (cp : CleanPacket) : Core :=
  { s with ps := { s.ps with clean := upd s.ps.clean ⟨s.name, cp.dst⟩ cp.seq },
           evlog := s.evlog ++ [cleanEvent "send_clean_packet" { cp with src := s.name }] }

theorem cleanPacket_cases (s : Core) (cp : CleanPacket) :
    (CleanOk s cp ∧ cleanPacket s cp = (cleanWrites s cp, .ok)) ∨
    (¬ CleanOk s cp ∧ ∃ e, cleanPacket s cp = (s, .err e)) := by
  unfold cleanPacket CleanOk
  rw [← validateClean_ok_iff]
  by_cases h0 : cp.seq = 0
  · exact .inr ⟨fun h => h.1 h0, _, if_pos (beq_iff_eq.mpr h0)⟩
  rw [if_neg (mt beq_iff_eq.mp h0)]
  dsimp only
  cases validateClean s { cp with src := s.name } with
  | err e => exact .inr ⟨fun h => (nomatch h.2.1), e, rfl⟩
  | ok =>
    cases s.clients (cleanTarget cp) with
    | none => exact .inr ⟨fun h => (nomatch h.2.2), _, rfl⟩
    | some cl =>
      have hn : cp.seq ≤ (s.setClean ⟨s.name, cp.dst⟩ cp.seq).ps.clean ⟨s.name, cp.dst⟩ :=
        Nat.le_of_eq (upd_same ..).symm
      refine .inl ⟨⟨h0, rfl, rfl⟩, ?_⟩
      dsimp only [CleanPacket.pair]
      rw [cleanAcks_noop _ _ _ _ hn, cleanReceipts_noop _ _ _ _ hn]; rfl

end Core
end Tibc
