import Tibc.Lemmas.NftSteps
import Tibc.Lemmas.World
/-
  The multi-token module of every chain moves by keeper operations only (`MtSteps`), through the
  transfer application, the message server and every operation of the world; so the
  conservation invariant, which every keeper operation keeps, holds after every history.
-/
namespace Tibc

variable (H : Data → Digest) (Hc : Str → Str)

theorem mtSteps_ite {a : Apps} {β : Type} {c : Prop} [Decidable c] {x y : Apps × β}
    (hx : MtSteps a.mt x.1.mt) (hy : MtSteps a.mt y.1.mt) : MtSteps a.mt (if c then x else y).1.mt := by
  split <;> assumption

/-- the keepers' `if err != nil { return err }` -/
theorem mtSteps_seq {a : Apps} (r : Apps × Res) (f : Apps → Apps × Res)
    (hr : MtSteps a.mt r.1.mt) (hf : ∀ s, MtSteps s.mt (f s).1.mt) :
    MtSteps a.mt (match r with | (s, Res.err e) => (s, Res.err e) | (s, Res.ok) => f s).1.mt :=
  fst_seq (P := fun x => MtSteps a.mt x.mt) r f hr fun s hs => hs.trans (hf s)

theorem mtVoucherClass_mt (a : Apps) (path : Str) : (mtVoucherClass Hc a path).1.mt = a.mt := by
  unfold mtVoucherClass; simp only; split <;> rfl

theorem mtSendToken_mtSteps (a : Apps) (cls id : Str) (amt : Nat) (sender : Addr) (away : Bool) :
    MtSteps a.mt (mtSendToken a cls id amt sender away).1.mt :=
  mtSteps_ite (.single (.transferOwner ..)) (.single (.burn ..))

theorem mtRecvAway_mtSteps (a : Apps) (p : Packet) (d : MtData) : MtSteps a.mt (mtRecvAway Hc a p d).1.mt := by
  unfold mtRecvAway
  -- the voucher class is looked up and its denom issued if need be; then issue or mint; then the hand-over
  refine mtSteps_seq _ _ (MtSteps.trans ?_ (mtSteps_ite (.single (.issueMT ..)) (.single (.mintMT ..))))
    fun s => .single (.transferOwner ..)
  rw [← mtVoucherClass_mt Hc a (ClassPath.getAway mtPfx p.src.toList p.dst.toList d.cls)]
  cases (mtVoucherClass Hc a _).1.mt.denom _
  · exact .single (.issueDenom ..)
  · exact .refl

theorem mtRecvBack_mtSteps (a : Apps) (d : MtData) : MtSteps a.mt (mtRecvBack Hc a d).1.mt := by
  unfold mtRecvBack
  refine mtSteps_ite (.refl) ?_
  cases ClassPath.getBack d.cls
  · exact .refl
  · exact .single (.transferOwner ..)

theorem mtOnRecv_mtSteps (a : Apps) (p : Packet) (d : MtData) : MtSteps a.mt (mtOnRecv Hc a p d).1.mt :=
  mtSteps_ite (.refl) <| mtSteps_ite (.refl) <| mtSteps_ite (.refl) <| mtSteps_ite (.refl) <|
    mtSteps_ite (mtRecvAway_mtSteps Hc a p d) (mtRecvBack_mtSteps Hc a d)

theorem mtRefund_mtSteps (a : Apps) (d : MtData) : MtSteps a.mt (mtRefund Hc a d).1.mt :=
  mtSteps_ite (.refl) <| mtSteps_ite (.single (.transferOwner ..)) <|
    mtSteps_seq _ _ (.single (.mintMT ..)) (fun _ => .single (.transferOwner ..))

theorem appOnRecv_mtSteps (a : Apps) (p : Packet) (t : String) : MtSteps a.mt (appOnRecv Hc a p t).1.mt := by
  unfold appOnRecv
  refine mtSteps_ite (.refl) (mtSteps_ite ?_ (mtSteps_ite ?_ (.refl)))
  · cases decodeNft p.data with
    | none => exact .refl
    | some d =>
      have h := nftOnRecv_mt Hc a p d
      simp only []
      generalize nftOnRecv Hc a p d = r at h ⊢
      rcases r with ⟨s, _ | e⟩ <;> exact h ▸ .refl
  · cases decodeMt p.data with
    | none => exact .refl
    | some d =>
      have h := mtOnRecv_mtSteps Hc a p d
      simp only []
      generalize mtOnRecv Hc a p d = r at h ⊢
      rcases r with ⟨s, _ | e⟩ <;> exact h

theorem appOnAck_mtSteps (a : Apps) (p : Packet) (ack : Data) : MtSteps a.mt (appOnAck Hc a p ack).1.mt := by
  unfold appOnAck
  refine mtSteps_ite (.refl) (mtSteps_ite ?_ (mtSteps_ite ?_ (.refl)))
  · split
    · cases decodeNft p.data <;> exact .refl
    · cases decodeNft p.data with
      | none => exact .refl
      | some d => exact nftRefund_mt Hc a d ▸ .refl
    · exact .refl
  · split
    · cases decodeMt p.data <;> exact .refl
    · cases decodeMt p.data with
      | none => exact .refl
      | some d => exact mtRefund_mtSteps Hc a d
    · exact .refl

theorem Delivered.mtSteps {s t : State} (h : Delivered H Hc s t) : MtSteps s.apps.mt t.apps.mt := by
  cases h with
  | recv p π h t _ _ ha =>
    have := appOnRecv_mtSteps Hc s.apps p t
    rwa [ha] at this
  | ack p a π h => exact appOnAck_mtSteps Hc s.apps p a
  | nftSend cls id sender away pkt ha =>
    have := nftSendToken_mt s.apps cls id sender away
    rw [ha] at this
    exact this ▸ .refl
  | mtSend cls id amt sender away pkt ha =>
    have := mtSendToken_mtSteps s.apps cls id amt sender away
    rwa [ha] at this
  | _ => exact .refl

theorem Local.mtSteps {w : World} {op : Op} {t : State} (h : Local H Hc w op t) : MtSteps (w op.chain).apps.mt t.apps.mt := by
  cases h with
  | tx hd => exact hd.mtSteps H Hc
  | user a hu => exact hu
  | _ => exact .refl

/-- what `C05.mt_supply_conserved` rests on: on every chain, over any history, units appear and
    disappear by keeper operations only -/
theorem run_mtSteps (w : World) (ops : List Op) (q : Chain) : MtSteps (w q).apps.mt ((run H Hc w ops) q).apps.mt :=
  run_inv H Hc (P := fun q t => MtSteps (w q).apps.mt t.apps.mt)
    (fun _ _ _ hl h => h.trans (hl.mtSteps H Hc)) (fun _ => .refl) ops q

end Tibc
