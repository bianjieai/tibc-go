import Tibc.Lemmas.World
/-
  Where the entries of a chain's provable stores come from.  Every commitment is one this chain's
  `SendPacket` made (ghost log `sent`) or one copied, by the relay branch of `RecvPacket`, from a
  state the chain's light client recorded for another chain; every acknowledgement record is one
  this chain's `WriteAcknowledgement` made (ghost log `ackLog`) or one copied by the relay branch of
  `AcknowledgePacket`.  Hence, over every history of the world, whatever a light client shows was
  logged by some chain.  The argument is the same for both stores and is given once.
-/
namespace Tibc
open Core

variable (H : Data → Digest) (Hc : Str → Str)

section origin
/- `f`: one of the two stores; `g`: the same store in a recorded state; `L s k d`: chain state `s`
   has logged writing `d` under `k` itself -/
variable (f : PStore → PKey → Option Digest) (g : Snapshot → PKey → Option Digest)
  (L : Core → PKey → Digest → Prop)

/-- origin of the entries of `t`, relative to an earlier state `s` of the same chain: there before,
    written and logged by the chain itself, or shown by one of its light clients -/
def Origin (s t : Core) : Prop :=
  ∀ k d, f t.ps k = some d →
    f s.ps k = some d ∨ L t k d ∨ ∃ q cl hh sn, s.clients q = some cl ∧ cl.cons hh = some sn ∧ g sn k = some d

variable {f g L}

theorem Origin.trans {s t u : Core} (hL : ∀ s t k d, Grow s t → L s k d → L t k d) (m1 : Mono s t) (m2 : Mono t u)
    (h1 : Origin f g L s t) (h2 : Origin f g L t u) : Origin f g L s u := by
  intro k d hu
  rcases h2 k d hu with ht | hl | ⟨q, cl, hh, sn, hc, hs⟩
  · rcases h1 k d ht with hs | hl | h3
    · exact .inl hs
    · exact .inr (.inl (hL _ _ _ _ m2.grow hl))
    · exact .inr (.inr h3)
  · exact .inr (.inl hl)
  · exact .inr (.inr ⟨q, cl, hh, sn, by rw [← m1.clients]; exact hc, hs⟩)

theorem Prims.origin (hL : ∀ s t k d, Grow s t → L s k d → L t k d) (hacc : ∀ s t, Accepted H s t → Origin f g L s t)
    {s t : Core} (h : Prims H s t) : Origin f g L s t :=
  Prims.lift H (fun _ _ _ h => .inl h) hacc (fun m1 m2 h1 h2 => h1.trans hL m1 m2 h2) h

theorem Local.origin (hL : ∀ s t k d, Grow s t → L s k d → L t k d) (hacc : ∀ s t, Accepted H s t → Origin f g L s t)
    {w : World} {op : Op} {t : State} (h : Local H Hc w op t) : Origin f g L (w op.chain).core t.core := by
  cases h with
  | tx hd => exact (hd.prims H Hc).origin H hL hacc
  | _ => exact fun _ _ h => .inl h

variable (f g L)

/-- some chain of the world has logged writing `d` under `k` -/
def Logged (w : World) (k : PKey) (d : Digest) : Prop := ∃ x, L (w x).core k d

/-- world invariant: every entry of the store on any chain, and in any state recorded by any light
    client of any chain, was written and logged by some chain -/
structure OriginInv (w : World) : Prop where
  store : ∀ x k d, f (w x).core.ps k = some d → Logged L w k d
  snaps : ∀ x q cl hh sn, (w x).core.clients q = some cl → cl.cons hh = some sn →
    ∀ k d, g sn k = some d → Logged L w k d

variable {f g L}

theorem step_originInv (hfg : ∀ ps, g ps.snapshot = f ps) (hL : ∀ s t k d, Grow s t → L s k d → L t k d)
    (hacc : ∀ s t, Accepted H s t → Origin f g L s t) (w : World) (op : Op) (hi : OriginInv f g L w) :
    OriginInv f g L (step H Hc w op).1 := by
  have later : ∀ {k d}, Logged L w k d → Logged L (step H Hc w op).1 k d :=
    fun ⟨x, hl⟩ => ⟨x, hL _ _ _ _ (step_grow H Hc w op x) hl⟩
  refine ⟨fun x k d hk => ?_, fun x q cl hh sn hcl hs k d hk => ?_⟩
  · rcases step_at H Hc w op x with e | ⟨rfl, hl⟩
    · rw [e] at hk; exact later (hi.store x k d hk)
    · rcases hl.origin H Hc hL hacc k d hk with h1 | h1 | ⟨q, cl, hh, sn, hcl, hs, hkk⟩
      · exact later (hi.store _ k d h1)
      · exact ⟨op.chain, h1⟩
      · exact later (hi.snaps _ q cl hh sn hcl hs k d hkk)
  · rcases step_at H Hc w op x with e | ⟨rfl, hl⟩
    · rw [e] at hcl; exact later (hi.snaps x q cl hh sn hcl hs k d hk)
    · rcases hl.snaps H Hc hcl hs with ⟨cl0, hc0, hs0⟩ | rfl
      · exact later (hi.snaps _ q cl0 hh sn hc0 hs0 k d hk)
      · rw [hfg] at hk; exact later (hi.store q k d hk)

theorem run_originInv (hfg : ∀ ps, g ps.snapshot = f ps) (hf0 : ∀ k, f PStore.empty k = none)
    (hL : ∀ s t k d, Grow s t → L s k d → L t k d)
    (hacc : ∀ s t, Accepted H s t → Origin f g L s t) (ops : List Op) : OriginInv f g L (run H Hc World.init ops) :=
  run_induction H Hc (Q := fun _ => True) (fun w op _ => step_originInv H Hc hfg hL hacc w op)
    ⟨fun x k d hk => absurd ((hf0 k).symm.trans (show f PStore.empty k = some d from hk)) (by simp),
     fun x q cl hh sn hc => absurd (show none = some cl from hc) (by simp)⟩
    (fun _ _ => trivial)

end origin

/-- chain state `s` is the source of `k` and its `SendPacket` made the commitment `d` under `k` -/
def SentBy (s : Core) (k : PKey) (d : Digest) : Prop := k.src = s.name ∧ ∃ data, d = H data ∧ (k, data) ∈ s.sent

theorem SentBy.grow (s t : Core) (k : PKey) (d : Digest) (hg : Grow s t) (h : SentBy H s k d) : SentBy H t k d := by
  obtain ⟨hn, data, hd, hm⟩ := h
  obtain ⟨l, hl⟩ := hg.sent
  exact ⟨hn.trans hg.name.symm, data, hd, by rw [hl]; exact List.mem_append_left _ hm⟩

theorem Accepted.commitOrigin (s t : Core) (ha : Accepted H s t) : Origin (·.commit) (·.commit) (SentBy H) s t := by
  intro k d ht
  cases ha with
  | send p hok =>
    rcases upd_eq_some ht with ⟨rfl, e⟩ | ⟨_, e⟩
    · exact .inr (.inl ⟨hok.src, p.data, (Option.some.inj e).symm, List.mem_append_right _ (List.mem_singleton_self _)⟩)
    · exact .inl e
  | recv p π h hok =>
    -- the relay branch wrote it: it is the commitment verified against the prover's recorded state
    rw [recvWrites_eq] at ht
    by_cases hf : forwards s p = true
    · rw [if_pos hf] at ht
      rcases upd_eq_some ht with ⟨rfl, e⟩ | ⟨_, e⟩
      · obtain ⟨cl, sn, hcl, hcons, hsn⟩ := hok.shown
        exact .inr (.inr ⟨_, cl, h, sn, hcl, hcons, Option.some.inj e ▸ hsn⟩)
      · exact .inl e
    · rw [if_neg hf] at ht; exact .inl ht
  | writeAck p a => exact .inl ht
  | ack p a π h =>
    rw [ackWrites_eq] at ht
    rcases upd_eq_some ht with ⟨_, e⟩ | ⟨_, e⟩
    · cases e
    · exact .inl e
  | clean cp => exact .inl ht
  | recvClean cp π h => rw [recvCleanWrites_eq] at ht; exact .inl ht

/-- over every history: a commitment shown by any light client of any chain is that of a packet
    the source chain's application really sent -/
theorem shown_commit_was_sent (ops : List Op) {x q : Chain} {cl : Client} {hh : Nat} {sn : Snapshot} {k : PKey} {d : Digest}
    (hc : ((run H Hc World.init ops) x).core.clients q = some cl) (hs : cl.cons hh = some sn) (hk : sn.commit k = some d) :
    ∃ data, d = H data ∧ (k, data) ∈ ((run H Hc World.init ops) k.src).core.sent := by
  obtain ⟨y, hn, h⟩ := (run_originInv H Hc (f := (·.commit)) (g := (·.commit)) (fun _ => rfl) (fun _ => rfl) (SentBy.grow H)
      (Accepted.commitOrigin H) ops).snaps
    x q cl hh sn hc hs k d hk
  rwa [hn, (run_grow H Hc World.init ops y).name]

/-- chain state `s` has written the acknowledgement record `d` under `k` by `WriteAcknowledgement` -/
def AckedBy (s : Core) (k : PKey) (d : Digest) : Prop := ∃ a, d = H a ∧ (k, a) ∈ s.ackLog

theorem AckedBy.grow (s t : Core) (k : PKey) (d : Digest) (hg : Grow s t) (h : AckedBy H s k d) : AckedBy H t k d := by
  obtain ⟨a, hd, hm⟩ := h
  obtain ⟨l, hl⟩ := hg.ackLog
  exact ⟨a, hd, by rw [hl]; exact List.mem_append_left _ hm⟩

theorem Accepted.ackOrigin (s t : Core) (ha : Accepted H s t) : Origin (·.ack) (·.ack) (AckedBy H) s t := by
  intro k d ht
  cases ha with
  | send p => exact .inl ht
  | recv p π h => rw [recvWrites_eq] at ht; exact .inl ht
  | writeAck p a =>
    rcases upd_eq_some ht with ⟨rfl, e⟩ | ⟨_, e⟩
    · exact .inr (.inl ⟨a, (Option.some.inj e).symm, List.mem_append_right _ (List.mem_singleton_self _)⟩)
    · exact .inl e
  | ack p a π h hok =>
    rw [ackWrites_eq] at ht
    by_cases hf : passesAck s p = true
    · rw [if_pos hf] at ht
      rcases upd_eq_some ht with ⟨rfl, e⟩ | ⟨_, e⟩
      · obtain ⟨cl, sn, hcl, hcons, hsn⟩ := hok.shown
        exact .inr (.inr ⟨_, cl, h, sn, hcl, hcons, Option.some.inj e ▸ hsn⟩)
      · exact .inl e
    · rw [if_neg hf] at ht; exact .inl ht
  | clean cp => exact .inl ht
  | recvClean cp π h =>
    rw [recvCleanWrites_eq] at ht
    dsimp only at ht
    split at ht
    · cases ht
    · exact .inl ht

/-- over every history: an acknowledgement record shown by any light client of any chain was
    written by some chain's `WriteAcknowledgement` -/
theorem shown_ack_was_written (ops : List Op) {x q : Chain} {cl : Client} {hh : Nat} {sn : Snapshot} {k : PKey} {d : Digest}
    (hc : ((run H Hc World.init ops) x).core.clients q = some cl) (hs : cl.cons hh = some sn) (hk : sn.ack k = some d) :
    ∃ a y, d = H a ∧ (k, a) ∈ ((run H Hc World.init ops) y).core.ackLog := by
  obtain ⟨y, a, hd, hm⟩ := (run_originInv H Hc (f := (·.ack)) (g := (·.ack)) (fun _ => rfl) (fun _ => rfl) (AckedBy.grow H)
      (Accepted.ackOrigin H) ops).snaps
    x q cl hh sn hc hs k d hk
  exact ⟨a, y, hd, hm⟩

end Tibc
