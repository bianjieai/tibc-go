import Tibc.Host.Keys
import Tibc.Lemmas.Split
/- Every key builder is a `join` of `/`-free parts, so `splitSlash` gives the parts back
   (`seqPath_split`, `pairPath_split`); injectivity, disjointness of the families and the read-back
   of the iterators' parsers are read off the parts. -/
namespace Tibc.Host

theorem splitSlash_eq (s : Str) : splitSlash s = splitOnChar '/' s := by
  induction s with
  | nil => rfl
  | cons c cs ih => rw [splitSlash, splitOnChar, ih]; rfl

theorem join_eq (parts : List Str) : join parts = joinWith '/' parts := by
  fun_induction join parts <;> simp only [joinWith, *]

/-- **`strings.Split` inverts `strings.Join`** on segments that contain no `/`. -/
theorem split_join (parts : List Str) (hne : parts ≠ []) (h : ∀ p ∈ parts, '/' ∉ p) :
    splitSlash (join parts) = parts := by
  rw [splitSlash_eq, join_eq, Tibc.split_join '/' parts hne h]

theorem charVal_digitChar : ∀ d < 10, charVal (digitChar d) = d := by decide

theorem isDigit_digitChar (d : Nat) : isDigit (digitChar d) = true := by
  unfold digitChar
  split <;> decide

theorem val_append (s : Str) (c : Char) : val (s ++ [c]) = 10 * val s + charVal c := by
  unfold val
  rw [List.foldl_append]
  rfl

theorem val_digits (n : Nat) : val (digits n) = n := by
  fun_induction digits n with
  | case1 n h => simp [val, charVal_digitChar n h]
  | case2 n h ih =>
    rw [val_append, ih, charVal_digitChar _ (Nat.mod_lt _ (by decide))]
    omega

theorem digits_injective {a b : Nat} (h : digits a = digits b) : a = b := by
  have := congrArg val h
  rwa [val_digits, val_digits] at this

theorem digits_isDigit (n : Nat) : (digits n).all isDigit = true := by
  fun_induction digits n with
  | case1 n h => simp [isDigit_digitChar]
  | case2 n h ih => simp [ih, isDigit_digitChar]

theorem digits_noslash (n : Nat) : '/' ∉ digits n :=
  fun h => absurd (List.all_eq_true.mp (digits_isDigit n) _ h) (by decide)

theorem digits_ne_nil (n : Nat) : digits n ≠ [] := by
  rw [digits]
  split <;> simp

theorem parseUint_digits (n : Nat) (h : n < 2 ^ 64) : parseUint (digits n) = some n := by
  simp [parseUint, val_digits, digits_ne_nil, digits_isDigit, h]

theorem seqPath_flat (pfx src dst : Str) (n : Nat) :
    seqPath pfx src dst n = join [pfx, src, dst, sequencesSeg, digits n] := by
  simp [seqPath, seqPrefixPath, packetPath, join]

theorem pairPath_flat (pfx src dst : Str) : pairPath pfx src dst = join [pfx, src, dst] := by
  simp [pairPath, packetPath, join]

theorem sequencesSeg_noslash : '/' ∉ sequencesSeg := by decide +kernel
theorem commitPfx_noslash : '/' ∉ commitPfx := by decide +kernel
theorem ackPfx_noslash : '/' ∉ ackPfx := by decide +kernel
theorem receiptPfx_noslash : '/' ∉ receiptPfx := by decide +kernel
theorem cleanPfx_noslash : '/' ∉ cleanPfx := by decide +kernel
theorem maxAckPfx_noslash : '/' ∉ maxAckPfx := by decide +kernel
theorem nextSendPfx_noslash : '/' ∉ nextSendPfx := by decide +kernel

theorem seqPath_split {pfx src dst : Str} {n : Nat} (hp : '/' ∉ pfx) (hs : '/' ∉ src) (hd : '/' ∉ dst) :
    splitSlash (seqPath pfx src dst n) = [pfx, src, dst, sequencesSeg, digits n] := by
  rw [seqPath_flat]
  exact split_join _ (by simp) (by simpa using ⟨hp, hs, hd, sequencesSeg_noslash, digits_noslash n⟩)

theorem pairPath_split {pfx src dst : Str} (hp : '/' ∉ pfx) (hs : '/' ∉ src) (hd : '/' ∉ dst) :
    splitSlash (pairPath pfx src dst) = [pfx, src, dst] := by
  rw [pairPath_flat]
  exact split_join _ (by simp) (by simpa using ⟨hp, hs, hd⟩)

theorem seqPath_injective {pfx pfx' src src' dst dst' : Str} {n n' : Nat}
    (hp : '/' ∉ pfx) (hs : '/' ∉ src) (hd : '/' ∉ dst) (hp' : '/' ∉ pfx') (hs' : '/' ∉ src') (hd' : '/' ∉ dst')
    (h : seqPath pfx src dst n = seqPath pfx' src' dst' n') :
    pfx = pfx' ∧ src = src' ∧ dst = dst' ∧ n = n' := by
  have := congrArg splitSlash h
  rw [seqPath_split hp hs hd, seqPath_split hp' hs' hd'] at this
  simp only [List.cons.injEq, and_true, true_and] at this
  exact ⟨this.1, this.2.1, this.2.2.1, digits_injective this.2.2.2⟩

theorem pairPath_injective {pfx pfx' src src' dst dst' : Str}
    (hp : '/' ∉ pfx) (hs : '/' ∉ src) (hd : '/' ∉ dst) (hp' : '/' ∉ pfx') (hs' : '/' ∉ src') (hd' : '/' ∉ dst')
    (h : pairPath pfx src dst = pairPath pfx' src' dst') :
    pfx = pfx' ∧ src = src' ∧ dst = dst' := by
  have := congrArg splitSlash h
  rw [pairPath_split hp hs hd, pairPath_split hp' hs' hd'] at this
  simpa using this

theorem seqPath_ne_pairPath {pfx pfx' src src' dst dst' : Str} {n : Nat}
    (hp : '/' ∉ pfx) (hs : '/' ∉ src) (hd : '/' ∉ dst) (hp' : '/' ∉ pfx') (hs' : '/' ∉ src') (hd' : '/' ∉ dst') :
    seqPath pfx src dst n ≠ pairPath pfx' src' dst' := by
  intro h
  have := congrArg splitSlash h
  rw [seqPath_split hp hs hd, pairPath_split hp' hs' hd'] at this
  simp at this

theorem parseSeqPath_seqPath {pfx src dst : Str} {n : Nat} (hp : '/' ∉ pfx) (hs : '/' ∉ src) (hd : '/' ∉ dst)
    (hn : n < 2 ^ 64) : parseSeqPath (seqPath pfx src dst n) = some (src, dst, n) := by
  unfold parseSeqPath
  rw [seqPath_split hp hs hd]
  simp [parseUint_digits n hn]

theorem parseChannelPath_pairPath {pfx src dst : Str} (hp : '/' ∉ pfx) (hs : '/' ∉ src) (hd : '/' ∉ dst) :
    parseChannelPath (pairPath pfx src dst) = some (src, dst) := by
  unfold parseChannelPath
  rw [pairPath_split hp hs hd]

end Tibc.Host
