import Tibc.Lemmas.World
/-
  How the ghost callback log evolves: exactly one "recv" entry is appended by a successful
  `MsgRecvPacket` on the destination chain, exactly one "ack" entry by a successful
  `MsgAcknowledgement` on the source chain; nothing else touches it.
-/
namespace Tibc
open Core

variable (H : Data → Digest) (Hc : Str → Str)

inductive LogDelta (s t : State) : Prop
  | same : t.cbLog = s.cbLog → LogDelta s t
  | recv (p : Packet) (π : Proof) (h : Nat) :
      t.cbLog = s.cbLog ++ [⟨"recv", p.port, p.key⟩] → RecvOk H s.core p π h → p.dst = s.core.name →
      (t.core.ps.receipt p.key = true ∨ p.seq ≤ t.core.ps.clean p.pair) → LogDelta s t
  | ack (p : Packet) (a : Data) (π : Proof) (h : Nat) :
      t.cbLog = s.cbLog ++ [⟨"ack", p.port, p.key⟩] → AckOk H s.core p a π h →
      p.src = s.core.name → t.core = (ackWrites H s.core p a).1 → LogDelta s t

theorem Delivered.log {s t : State} (h : Delivered H Hc s t) : LogDelta H s t := by
  cases h with
  | recv p π h t hok hdst =>
    -- the receipt is set by the write phase and survives the acknowledgement's
    have hrc : (s.core.recvWrites H p).1.ps.receipt p.key = true := by rw [recvWrites_eq]; exact upd_same ..
    exact .recv p π h rfl hok hdst (((Prim.writeAck _ p _).mono H).receipt p.key hrc)
  | ack p a π h hok hsrc => exact .ack p a π h rfl hok hsrc rfl
  | _ => exact .same rfl

theorem Local.log {w : World} {op : Op} {t : State} (h : Local H Hc w op t) : LogDelta H (w op.chain) t := by
  cases h with
  | tx hd => exact hd.log H Hc
  | _ => exact .same rfl

end Tibc
