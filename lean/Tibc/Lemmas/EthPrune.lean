import Tibc.Lemmas.EthChain
/-
  Pruning of the ETH client (`prune`): its three outcomes, `CheckHeaderAndUpdateState` as checks,
  pruning and `applyHeader`, and what `C18.pruning_keeps_one_chain` needs about ancestors when the
  earliest visible consensus state goes together with its header-index and root-index entries.
-/
namespace Tibc.ETH

def RootHeights (c : Client) : Prop := ∀ r n key, c.rootMain (r, n) = some key → key.2 = n

theorem index_rootHeights {c : Client} (h : RootHeights c) (x : Hdr) : RootHeights (index c x) := by
  intro r n key hk
  rcases upd_eq_some hk with ⟨heq, hv⟩ | ⟨_, hk⟩
  · cases hv; exact (Prod.mk.inj heq).2.symm
  · exact h r n key hk

theorem prune_cases (c : Client) (now : Nat) :
    prune c now = some c ∨ prune c now = none ∨
    ∃ e k key, c.cons e = some k ∧ k.time + c.period < now ∧ c.rootMain (k.root, e) = some key ∧
      prune c now = some { c with idx := upd c.idx key none
                                  rootMain := upd c.rootMain (k.root, e) none
                                  cons := upd c.cons e none
                                  heights := c.heights.filter (fun x => x != e) } := by
  fun_cases prune c now with
  | case1 | case5 => exact .inl rfl
  | case2 | case3 => exact .inr (.inl rfl)
  | case4 e _ k hk hexp key hr => exact .inr (.inr ⟨e, k, key, hk, hexp, hr, rfl⟩)

theorem prune_latest {c c1 : Client} {now : Nat} (h : prune c now = some c1) : c1.latest = c.latest := by
  rcases prune_cases c now with e | e | ⟨_, _, _, _, _, _, e⟩ <;> cases e.symm.trans h <;> rfl

theorem checkHeaderAndUpdate_eq (c : Client) (h : Hdr) (now : Nat) :
    checkHeaderAndUpdate c h now =
      if (c.cons c.latest.number).isSome = true ∧ accepts c h now = true then (prune c now).bind (applyHeader · h)
      else none := by
  unfold checkHeaderAndUpdate
  cases c.cons c.latest.number with
  | none => simp
  | some k =>
    cases accepts c h now with
    | false => simp
    | true =>
      cases hp : prune c now with
      | none => simp
      | some c1 =>
        simp only [Option.isNone_some, Bool.false_eq_true, if_false, Bool.not_true, Option.isSome_some, and_self, if_true,
          Option.bind_some, applyHeader, prune_latest hp]
        cases (if (c.latest.hash == h.parent) = true then some (index c1 h) else restrict (index c1 h) c.latest h) <;> rfl

theorem checkHeaderAndUpdate_eq_some {c c' : Client} {h : Hdr} {now : Nat} :
    checkHeaderAndUpdate c h now = some c' ↔
      ((c.cons c.latest.number).isSome = true ∧ accepts c h now = true) ∧ (prune c now).bind (applyHeader · h) = some c' := by
  rw [checkHeaderAndUpdate_eq]
  by_cases hc : (c.cons c.latest.number).isSome = true ∧ accepts c h now = true
  · rw [if_pos hc, and_iff_right hc]
  · rw [if_neg hc]; exact ⟨nofun, fun h => absurd h.1 hc⟩

theorem Anc.eq_or_stored {c : Client} (hk : KeysOk c) {x a : Hdr} (h : Anc c x a) : a = x ∨ Stored c a := by
  cases h with
  | refl => exact .inl rfl
  | step hp hr => exact .inr (hr.stored hk (parentOf_stored hk hp))

end Tibc.ETH
