import Tibc.World
import Tibc.Lemmas.Mono
import Tibc.Lemmas.MtSupply
/-
  World-level lemmas: the governance handlers case by case; an operation touches one chain, and
  does to it one of a few kinds of things (`Local`, `step_local`); induction over histories
  (`run_inv`); what every operation preserves of a chain's core state (`Local.grow`, `run_grow`).
-/
namespace Tibc

variable (H : Data → Digest) (Hc : Str → Str)

/-- a guard of a handler: refuse and leave the state alone, or go on to `r`, which is accepted
    (under `A`, with result `x`) or refused in its turn -/
theorem guard_cases {σ : Type} {c : Prop} [Decidable c] {s : σ} {e : Err} {r : σ × Res} {A : Prop} {x : σ × Res}
    (h : ¬ c → (A ∧ r = x) ∨ ∃ e', r = (s, .err e')) :
    (A ∧ (if c then (s, .err e) else r) = x) ∨ ∃ e', (if c then (s, .err e) else r) = (s, .err e') := by
  by_cases hc : c
  · rw [if_pos hc]; exact .inr ⟨e, rfl⟩
  · rw [if_neg hc]; exact h hc

theorem guard_refused {σ : Type} {c : Prop} [Decidable c] {s : σ} {e : Err} {r : σ × Res}
    (h : ¬ c → ∃ e', r = (s, .err e')) : ∃ e', (if c then (s, .err e) else r) = (s, .err e') := by
  by_cases hc : c
  · rw [if_pos hc]; exact ⟨e, rfl⟩
  · rw [if_neg hc]; exact h hc

theorem createClientMsg_cases (s : State) (auth : Addr) (q : Chain) (ct : String) (h t pd : Nat) (v cs : Bool)
    (sn : Snapshot) :
    ((s.core.authority = auth ∧ s.core.clients q = none) ∧
      createClientMsg s auth q ct h t pd v cs sn =
        (setClient s q { Client.init ct h t pd sn with cons := fun h' => if h' = h ∧ cs then some sn else none }, .ok)) ∨
    ∃ e, createClientMsg s auth q ct h t pd v cs sn = (s, .err e) := by
  unfold createClientMsg
  refine guard_cases fun _ => guard_cases fun _ => guard_cases fun _ => guard_cases fun ha => ?_
  cases s.core.clients q with
  | some _ => exact .inr ⟨_, rfl⟩
  | none => exact guard_cases fun _ => .inl ⟨⟨by simpa using ha, rfl⟩, rfl⟩

theorem upgradeClientMsg_cases (s : State) (auth : Addr) (q : Chain) (ct : String) (h t pd : Nat) (v cs : Bool)
    (sn : Snapshot) :
    (∃ cl, (s.core.authority = auth ∧ s.core.clients q = some cl ∧ cl.ctype = ct) ∧
      upgradeClientMsg s auth q ct h t pd v cs sn =
        (setClient s q { cl with latest := h, cons := upd cl.cons h (if cs then some sn else none),
                                 consTime := upd cl.consTime h t, period := pd }, .ok)) ∨
    ∃ e, upgradeClientMsg s auth q ct h t pd v cs sn = (s, .err e) := by
  unfold upgradeClientMsg
  cases s.core.clients q with
  | none => exact .inr (guard_refused fun _ => guard_refused fun _ => guard_refused fun _ => guard_refused fun _ => ⟨_, rfl⟩)
  | some cl =>
    refine (guard_cases fun _ => guard_cases fun _ => guard_cases fun _ => guard_cases fun ha =>
      guard_cases fun hty => .inl ⟨⟨by simpa using ha, rfl, by simpa using hty⟩, rfl⟩).imp (fun h => ⟨cl, h⟩) id

theorem registerRelayerMsg_cases (s : State) (auth : Addr) (q : Chain) (rs : List Addr) :
    (s.core.authority = auth ∧
      registerRelayerMsg s auth q rs = ({ s with core := { s.core with relayers := upd s.core.relayers q rs } }, .ok)) ∨
    ∃ e, registerRelayerMsg s auth q rs = (s, .err e) := by
  unfold registerRelayerMsg
  exact guard_cases fun _ => guard_cases fun _ => guard_cases fun _ => guard_cases fun _ => guard_cases fun ha =>
    .inl ⟨by simpa using ha, rfl⟩

theorem setRulesMsg_cases (s : State) (auth : Addr) (rules : List Str) :
    (s.core.authority = auth ∧
      setRulesMsg s auth rules = ({ s with core := { s.core with rules := some rules } }, .ok)) ∨
    ∃ e, setRulesMsg s auth rules = (s, .err e) := by
  unfold setRulesMsg
  exact guard_cases fun _ => guard_cases fun _ => guard_cases fun ha => .inl ⟨by simpa using ha, rfl⟩

theorem updateClientMsg_cases (s : State) (signer : Addr) (q : Chain) (h t : Nat) (ok : Bool) (sn : Snapshot) :
    (∃ cl, (signer ∈ s.core.relayers q ∧ s.core.clients q = some cl ∧ cl.active s.core.now = true) ∧
      updateClientMsg s signer q h t ok sn =
        (setClient s q { cl with latest := if h > cl.latest then h else cl.latest,
                                 cons := upd cl.cons h (some sn), consTime := upd cl.consTime h t }, .ok)) ∨
    ∃ e, updateClientMsg s signer q h t ok sn = (s, .err e) := by
  unfold updateClientMsg
  cases s.core.clients q with
  | none => exact .inr (guard_refused fun _ => ⟨_, rfl⟩)
  | some cl =>
    refine (guard_cases fun hs => guard_cases fun hact => guard_cases fun _ =>
      .inl ⟨⟨by simpa using hs, rfl, by simpa using hact⟩, rfl⟩).imp (fun h => ⟨cl, h⟩) id

/-- the packet store, name and ghost logs of the core state, the applications and the callback
    log are all unchanged: the frame of every governance / relayer operation -/
structure AdminOnly (s t : State) : Prop where
  name : t.core.name = s.core.name
  ps : t.core.ps = s.core.ps
  sent : t.core.sent = s.core.sent
  ackLog : t.core.ackLog = s.core.ackLog
  evlog : t.core.evlog = s.core.evlog
  authority : t.core.authority = s.core.authority
  apps : t.apps = s.apps
  cbLog : t.cbLog = s.cbLog

theorem AdminOnly.grow {s t : State} (h : AdminOnly s t) : Grow s.core t.core :=
  .of_eq h.name h.ps h.sent h.ackLog h.evlog

theorem AdminOnly.setClient (s : State) (q : Chain) (cl : Client) : AdminOnly s (setClient s q cl) :=
  ⟨rfl, rfl, rfl, rfl, rfl, rfl, rfl, rfl⟩

theorem AdminOnly.config (s : State) (rules : Option (List Str)) (relayers : Chain → List Addr) (now : Nat) :
    AdminOnly s { s with core := { s.core with rules := rules, relayers := relayers, now := now } } :=
  ⟨rfl, rfl, rfl, rfl, rfl, rfl, rfl, rfl⟩

def Op.chain : Op → Chain
  | .tx c _ | .ksend c _ | .createClient c _ _ _ _ | .update c _ _ _ | .setRules c _ | .setTime c _
  | .createClientMsg c _ _ _ _ _ _ _ _ | .upgradeClientMsg c _ _ _ _ _ _ _ _ | .registerRelayerMsg c _ _ _
  | .setRulesMsg c _ _ | .updateClientMsg c _ _ _ _ _
  | .nftIssue c _ _ _ | .nftMint c _ _ _ _ _ | .nftSend c _ _ _ _ | .nftBurn c _ _ _
  | .mtIssue c _ _ | .mtMint c _ _ _ _ _ _ | .mtSend c _ _ _ _ _ | .mtBurn c _ _ _ _ => c

/-- the operation creates, on chain `c`, a light client of `c` itself -/
def Op.selfClient : Op → Bool
  | .createClient c q _ _ _ => q == c
  | .createClientMsg c _ q _ _ _ _ _ _ => q == c
  | _ => false

/-- What one operation can do to the state of the chain it acts on: what a transaction does
    (`Delivered`: also a direct keeper send, and a refused request of any kind, which does nothing);
    a light client created or modified (its recorded states are states the tracked chain really has
    or had); configuration (rules, relayers, block time); a token-module user message (the rest of
    the chain's state is untouched). (`create` records whether the new client is one of the chain
    itself, `Op.selfClient`: the one configuration `ack_processed_at_most_once` has to exclude.)
    It keeps what the invariants proved so far need and forgets the rest: `config` says nothing of
    the new rules, relayers or block time, `user` constrains only the multi-token module of the new
    application state, `create` / `modify` say nothing of the client's `latest` or `consTime`. An
    invariant about those needs a finer kind here, or a case analysis over `Op`. -/
inductive Local (w : World) (op : Op) : State → Prop
  | tx {t : State} : Delivered H Hc (w op.chain) t → Local w op t
  | create (q : Chain) (cl : Client) :
      op.selfClient = (q == op.chain) →
      ((w op.chain).core.clients q = none ∨ ∃ h t pd, op = .createClient op.chain q h t pd) →
      (∀ hh sn, cl.cons hh = some sn → sn = (w q).core.ps.snapshot) →
      Local w op (setClient (w op.chain) q cl)
  | modify (q : Chain) (cl0 cl : Client) :
      (w op.chain).core.clients q = some cl0 → cl.ctype = cl0.ctype →
      (∀ hh sn, cl.cons hh = some sn → cl0.cons hh = some sn ∨ sn = (w q).core.ps.snapshot) →
      Local w op (setClient (w op.chain) q cl)
  | config (rules : Option (List Str)) (relayers : Chain → List Addr) (now : Nat) :
      Local w op { w op.chain with core := { (w op.chain).core with rules := rules, relayers := relayers, now := now } }
  | user (a : Apps) : MtSteps (w op.chain).apps.mt a.mt → Local w op { w op.chain with apps := a }

theorem recorded_old_or_new {cl0 : Client} {h : Nat} {o : Option Snapshot} {sn0 : Snapshot} (ho : ∀ sn, o = some sn → sn = sn0)
    (hh : Nat) (sn : Snapshot) (hs : upd cl0.cons h o hh = some sn) : cl0.cons hh = some sn ∨ sn = sn0 :=
  (upd_eq_some hs).elim (fun e => .inr (ho sn e.2)) (fun e => .inl e.2)

theorem eq_of_ite_some {α : Type} {c : Prop} [Decidable c] {a b : α} (h : (if c then some a else none) = some b) :
    b = a := by
  by_cases hc : c
  · rw [if_pos hc] at h; exact (Option.some.inj h).symm
  · rw [if_neg hc] at h; cases h

theorem userTx_apps {s : State} {P : Apps → Prop} (h0 : P s.apps) {r : Apps × Res} (hr : P r.1) :
    ∃ a, P a ∧ (userTx s (liftApps s r)).1 = { s with apps := a } := by
  rcases r with ⟨a, _ | e⟩
  · exact ⟨a, hr, rfl⟩
  · exact ⟨s.apps, h0, rfl⟩

theorem guard_apps {c : Prop} [Decidable c] {s : State} {P : Apps → Prop} (h0 : P s.apps) {e : Err} {r : State × Res}
    (h : ¬ c → ∃ a, P a ∧ r.1 = { s with apps := a }) :
    ∃ a, P a ∧ (if c then (s, .err e) else r).1 = { s with apps := a } := by
  by_cases hc : c
  · rw [if_pos hc]; exact ⟨s.apps, h0, rfl⟩
  · rw [if_neg hc]; exact h hc

theorem nftIssueMsg_apps (s : State) (a : Addr) (cls : Str) (mr : Bool) :
    ∃ a', MtSteps s.apps.mt a'.mt ∧ (nftIssueMsg s a cls mr).1 = { s with apps := a' } :=
  guard_apps .refl fun _ => guard_apps .refl fun _ => userTx_apps .refl .refl

theorem nftMintMsg_apps (s : State) (a : Addr) (cls id : Str) (u : String) (rc : Addr) :
    ∃ a', MtSteps s.apps.mt a'.mt ∧ (nftMintMsg s a cls id u rc).1 = { s with apps := a' } := by
  refine guard_apps .refl fun _ => guard_apps .refl fun _ => guard_apps .refl fun _ => ?_
  cases s.apps.nft.denom cls with
  | none => exact ⟨s.apps, .refl, rfl⟩
  | some d => exact guard_apps .refl fun _ => userTx_apps .refl .refl

theorem nftSendMsg_apps (s : State) (a : Addr) (cls id : Str) (rc : Addr) :
    ∃ a', MtSteps s.apps.mt a'.mt ∧ (nftSendMsg s a cls id rc).1 = { s with apps := a' } :=
  guard_apps .refl fun _ => guard_apps .refl fun _ => userTx_apps .refl .refl

theorem nftBurnMsg_apps (s : State) (a : Addr) (cls id : Str) :
    ∃ a', MtSteps s.apps.mt a'.mt ∧ (nftBurnMsg s a cls id).1 = { s with apps := a' } :=
  guard_apps .refl fun _ => guard_apps .refl fun _ => userTx_apps .refl .refl

theorem mtIssueMsg_core (s : State) (a : Addr) (cls : Str) : (mtIssueMsg s a cls).1.core = s.core := rfl

theorem mtMintMsg_apps (s : State) (a : Addr) (cls id : Str) (f : Bool) (amt : Nat) (rc : Addr) :
    ∃ a', MtSteps s.apps.mt a'.mt ∧ (mtMintMsg s a cls id f amt rc).1 = { s with apps := a' } := by
  refine guard_apps .refl fun _ => ?_
  cases s.apps.mt.denom cls with
  | none => exact ⟨s.apps, .refl, rfl⟩
  | some o =>
    refine guard_apps .refl fun _ => ?_
    cases f with
    | true => exact userTx_apps .refl (.single (.issueMT cls id amt rc))
    | false => exact guard_apps .refl fun _ => userTx_apps .refl (.single (.mintMT cls id amt rc))

theorem mtSendMsg_apps (s : State) (a : Addr) (cls id : Str) (amt : Nat) (rc : Addr) :
    ∃ a', MtSteps s.apps.mt a'.mt ∧ (mtSendMsg s a cls id amt rc).1 = { s with apps := a' } :=
  guard_apps .refl fun _ => userTx_apps .refl (.single (.transferOwner cls id amt a rc))

theorem mtBurnMsg_apps (s : State) (a : Addr) (cls id : Str) (amt : Nat) :
    ∃ a', MtSteps s.apps.mt a'.mt ∧ (mtBurnMsg s a cls id amt).1 = { s with apps := a' } :=
  guard_apps .refl fun _ => userTx_apps .refl (.single (.burn cls id amt a))

theorem step_local (w : World) (op : Op) :
    ∃ t, Local H Hc w op t ∧ (step H Hc w op).1 = setChain w op.chain t := by
  have nothing : ∀ {c}, c = op.chain → ∃ t, Local H Hc w op t ∧ w = setChain w c t :=
    fun e => ⟨_, .tx .refused, by rw [e]; exact (upd_self w _).symm⟩
  have userMsg : ∀ {c} {x : State}, c = op.chain → (∃ a, MtSteps (w c).apps.mt a.mt ∧ x = { w c with apps := a }) →
      ∃ t, Local H Hc w op t ∧ setChain w c x = setChain w c t :=
    fun e ⟨a, hu, ha⟩ => ⟨_, .user a (e ▸ hu), by rw [ha, e]⟩
  cases op with
  | tx c m => exact ⟨_, .tx (deliver_delivered H Hc _ m), rfl⟩
  | ksend c p => exact ⟨_, .tx (.core (.single H (.send _ p))), rfl⟩
  | createClient c q h t pd =>
    exact ⟨_, .create q _ rfl (.inr ⟨h, t, pd, rfl⟩) fun _ _ => eq_of_ite_some, rfl⟩
  | update c q h t =>
    dsimp only [step, Op.chain]
    cases hcl : (w c).core.clients q with
    | none => exact nothing rfl
    | some cl =>
      refine ⟨_, ?_, rfl⟩
      exact .modify q cl _ hcl rfl (recorded_old_or_new fun _ e => (Option.some.inj e).symm)
  | setRules c rules =>
    dsimp only [step, Op.chain]
    cases Routing.setRules rules with
    | none => exact nothing rfl
    | some rs => exact ⟨_, .config (some rs) _ _, rfl⟩
  | setTime c now => exact ⟨_, .config _ _ now, rfl⟩
  | createClientMsg c auth q ct h t pd v cs =>
    dsimp only [step, Op.chain]
    rcases createClientMsg_cases (w c) auth q ct h t pd v cs (w q).core.ps.snapshot with ⟨⟨_, hn⟩, e⟩ | ⟨_, e⟩ <;> rw [e]
    · exact ⟨_, .create q _ rfl (.inl hn) fun _ _ => eq_of_ite_some, rfl⟩
    · exact ⟨_, .tx .refused, rfl⟩
  | upgradeClientMsg c auth q ct h t pd v cs =>
    dsimp only [step, Op.chain]
    rcases upgradeClientMsg_cases (w c) auth q ct h t pd v cs (w q).core.ps.snapshot with ⟨cl, ⟨_, hcl, _⟩, e⟩ | ⟨_, e⟩ <;> rw [e]
    · refine ⟨_, ?_, rfl⟩
      exact .modify q cl _ hcl rfl (recorded_old_or_new fun _ => eq_of_ite_some)
    · exact ⟨_, .tx .refused, rfl⟩
  | registerRelayerMsg c auth q rs =>
    dsimp only [step, Op.chain]
    rcases registerRelayerMsg_cases (w c) auth q rs with ⟨_, e⟩ | ⟨_, e⟩ <;> rw [e]
    · exact ⟨_, .config _ _ _, rfl⟩
    · exact ⟨_, .tx .refused, rfl⟩
  | setRulesMsg c auth rules =>
    dsimp only [step, Op.chain]
    rcases setRulesMsg_cases (w c) auth rules with ⟨_, e⟩ | ⟨_, e⟩ <;> rw [e]
    · exact ⟨_, .config _ _ _, rfl⟩
    · exact ⟨_, .tx .refused, rfl⟩
  | updateClientMsg c sg q h t ok =>
    dsimp only [step, Op.chain]
    rcases updateClientMsg_cases (w c) sg q h t ok (w q).core.ps.snapshot with ⟨cl, ⟨_, hcl, _⟩, e⟩ | ⟨_, e⟩ <;> rw [e]
    · refine ⟨_, ?_, rfl⟩
      exact .modify q cl _ hcl rfl (recorded_old_or_new fun _ e => (Option.some.inj e).symm)
    · exact ⟨_, .tx .refused, rfl⟩
  | nftIssue c a cls mr => exact userMsg rfl (nftIssueMsg_apps _ a cls mr)
  | nftMint c a cls id u rc => exact userMsg rfl (nftMintMsg_apps _ a cls id u rc)
  | nftSend c a cls id rc => exact userMsg rfl (nftSendMsg_apps _ a cls id rc)
  | nftBurn c a cls id => exact userMsg rfl (nftBurnMsg_apps _ a cls id)
  | mtIssue c a cls => exact ⟨_, .user _ (.single (.issueDenom cls a)), rfl⟩
  | mtMint c a cls id f amt rc => exact userMsg rfl (mtMintMsg_apps _ a cls id f amt rc)
  | mtSend c a cls id amt rc => exact userMsg rfl (mtSendMsg_apps _ a cls id amt rc)
  | mtBurn c a cls id amt => exact userMsg rfl (mtBurnMsg_apps _ a cls id amt)

theorem step_tx_err {w : World} {c : Chain} {m : Msg} {e : Err} (herr : (step H Hc w (.tx c m)).2 = .err e) :
    (step H Hc w (.tx c m)).1 = w := by
  show setChain w c (deliver H Hc (w c) m).1 = w
  rw [deliver_err_unchanged H Hc (w c) m e herr]
  exact upd_self w c

/-- one operation, seen from any chain: left exactly as it was, or the chain the operation acts on,
    moved by a local transition -/
theorem step_at (w : World) (op : Op) (q : Chain) :
    (step H Hc w op).1 q = w q ∨ (q = op.chain ∧ Local H Hc w op ((step H Hc w op).1 q)) := by
  obtain ⟨t, hl, e⟩ := step_local H Hc w op
  rw [e]
  by_cases hq : q = op.chain
  · rw [hq, setChain, upd_same]; exact .inr ⟨rfl, hl⟩
  · exact .inl (upd_other w _ q t hq)

theorem step_inv {P : Chain → State → Prop} (w : World) (op : Op)
    (hloc : ∀ t, Local H Hc w op t → P op.chain t) (hw : ∀ q, P q (w q)) (q : Chain) :
    P q ((step H Hc w op).1 q) := by
  rcases step_at H Hc w op q with e | ⟨rfl, hl⟩
  · rw [e]; exact hw q
  · exact hloc _ hl

theorem run_induction {P : World → Prop} {Q : Op → Prop} (hstep : ∀ w op, Q op → P w → P (step H Hc w op).1)
    {w : World} (h0 : P w) {ops : List Op} (hq : ∀ op ∈ ops, Q op) : P (run H Hc w ops) := by
  induction ops generalizing w with
  | nil => exact h0
  | cons op ops ih =>
    exact ih (hstep w op (hq op (List.mem_cons_self ..)) h0) fun o ho => hq o (List.mem_cons_of_mem _ ho)

/-- `P x s`: state `s` of chain `x` is fine; `Q`: a side condition on the operations of the history. -/
theorem run_inv_on {P : Chain → State → Prop} {Q : Op → Prop}
    (hloc : ∀ w op t, Q op → Local H Hc w op t → P op.chain (w op.chain) → P op.chain t)
    {w : World} (h0 : ∀ q, P q (w q)) {ops : List Op} (hq : ∀ op ∈ ops, Q op) (q : Chain) :
    P q (run H Hc w ops q) :=
  run_induction H Hc (P := fun w => ∀ q, P q (w q))
    (fun w op hQ hw => step_inv H Hc w op (fun t hl => hloc w op t hQ hl (hw _)) hw) h0 hq q

/-- For a relation between the start and the end of a history, fix the start world inside `P`
    (`run_grow`); for a fact about one chain `c`, take `P x s := x = c → …` (`C15.type_preserved`). -/
theorem run_inv {P : Chain → State → Prop}
    (hloc : ∀ w op t, Local H Hc w op t → P op.chain (w op.chain) → P op.chain t)
    {w : World} (h0 : ∀ q, P q (w q)) (ops : List Op) (q : Chain) : P q (run H Hc w ops q) :=
  run_inv_on H Hc (Q := fun _ => True) (fun w op t _ => hloc w op t) h0 (fun _ _ => trivial) q

theorem Local.grow {w : World} {op : Op} {t : State} (h : Local H Hc w op t) : Grow (w op.chain).core t.core := by
  cases h with
  | tx hd => exact (hd.mono H Hc).grow
  | create q cl => exact (AdminOnly.setClient _ q cl).grow
  | modify q _ cl => exact (AdminOnly.setClient _ q cl).grow
  | config r rl n => exact (AdminOnly.config _ r rl n).grow
  | user a _ => exact .refl _

/-- every state recorded by a light client of `q` after a local transition was recorded before
    it, or is the current state of `q` -/
theorem Local.snaps {w : World} {op : Op} {t : State} (h : Local H Hc w op t) {q : Chain} {cl : Client} {hh : Nat}
    {sn : Snapshot} (hc : t.core.clients q = some cl) (hs : cl.cons hh = some sn) :
    (∃ cl0, (w op.chain).core.clients q = some cl0 ∧ cl0.cons hh = some sn) ∨ sn = (w q).core.ps.snapshot := by
  cases h with
  | tx hd => rw [(hd.mono H Hc).clients] at hc; exact .inl ⟨cl, hc, hs⟩
  | create q' cl' _ _ hcons =>
    rcases upd_eq_some hc with ⟨rfl, e⟩ | ⟨_, e⟩
    · cases e; exact .inr (hcons hh sn hs)
    · exact .inl ⟨cl, e, hs⟩
  | modify q' cl0 cl' hcl0 _ hcons =>
    rcases upd_eq_some hc with ⟨rfl, e⟩ | ⟨_, e⟩
    · cases e
      rcases hcons hh sn hs with h0 | h0
      · exact .inl ⟨cl0, hcl0, h0⟩
      · exact .inr h0
    · exact .inl ⟨cl, e, hs⟩
  | _ => exact .inl ⟨cl, hc, hs⟩

theorem step_grow (w : World) (op : Op) (q : Chain) : Grow (w q).core ((step H Hc w op).1 q).core :=
  step_inv H Hc (P := fun q t => Grow (w q).core t.core) w op (fun _ => Local.grow H Hc) (fun _ => .refl _) q

theorem run_grow (w : World) (ops : List Op) (q : Chain) : Grow (w q).core ((run H Hc w ops) q).core :=
  run_inv H Hc (P := fun x s => Grow (w x).core s.core) (fun _ _ _ hl hi => hi.trans (hl.grow H Hc)) (fun _ => .refl _) ops q

end Tibc
