import Tibc.Lemmas.Eth
/- The one-chain invariant of the ETH client model and its preservation by an accepted header
   (no pruning in this step). -/
namespace Tibc.ETH

/-- well-formedness of the client store + the one-chain clause, relative to the trusted header `b` -/
structure Inv (c : Client) (b : Hdr) : Prop where
  keys    : KeysOk c
  latest  : Stored c c.latest
  roots   : ∀ k n x, c.idx (k, n) = some x → c.rootMain (x.root, x.number) = some (x.hash, x.number)
  hashinj : ∀ k n x k' n' y, c.idx (k, n) = some x → c.idx (k', n') = some y → x.hash = y.hash → x = y
  desc    : ∀ k n x, c.idx (k, n) = some x → Anc c x b
  /-- the consensus states exposed for heights up to the latest header are its ancestors' -/
  main    : ∀ a, Anc c c.latest a → c.cons a.number = some (consOf a)

/-- index the header, rewrite the main chain if it does not extend the latest header, make it the
    latest header and expose its consensus state (`CheckHeaderAndUpdateState` after validity check
    and pruning, plus the keeper's writes) -/
def applyHeader (c : Client) (h : Hdr) : Option Client :=
  let c2 := index c h
  let c3 := if c.latest.hash == h.parent then some c2 else restrict c2 c.latest h
  c3.map (fun c3 => { c3 with latest := h, cons := upd c3.cons h.number (some (consOf h)),
                              heights := insertHeight h.number c3.heights })

/-- the invariant after indexing the fresh child `h` of a stored header, for any state that shares
    header index and root index with `index c h`, has `h` as latest header and exposes the
    consensus states of `h`'s ancestors -/
theorem Inv.indexed {c : Client} {b h p : Hdr} (hi : Inv c b) (hf : Fresh c h)
    (hpar : parentOf c h = some p) {c' : Client}
    (hidx : c'.idx = (index c h).idx) (hrm : c'.rootMain = (index c h).rootMain) (hl : c'.latest = h)
    (hmain : ∀ a, Anc (index c h) h a → c'.cons a.number = some (consOf a)) : Inv c' b := by
  have hsub := index_sub hi.keys hf
  have hps := parentOf_stored hi.keys hpar
  have hhb : Anc (index c h) h b :=
    Anc.step (parentOf_mono hsub hpar) (Anc.mono hsub (hi.desc _ _ _ hps))
  have hto : ∀ {x a}, Anc (index c h) x a → Anc c' x a := Anc.mono fun k x hx => hidx ▸ hx
  have hfrom : ∀ {x a}, Anc c' x a → Anc (index c h) x a := Anc.mono fun k x hx => hidx ▸ hx
  refine { keys := fun k n x hx => index_keys hi.keys h k n x (hidx ▸ hx), latest := ?_, roots := ?_, hashinj := ?_, desc := ?_,
           main := fun a ha => hmain a (hfrom (hl ▸ ha)) }
  · unfold Stored; rw [hl, hidx]; exact index_stored_new c h
  · intro k n x hx
    rw [hidx] at hx
    rw [hrm]
    rcases index_idx_cases hx with ⟨rfl, _⟩ | hx
    · exact upd_same ..
    · rw [index_rootMain_old hf (stored_of_idx hi.keys hx)]
      exact hi.roots _ _ _ hx
  · intro k n x k' n' y hx hy hxy
    rw [hidx] at hx hy
    rcases index_idx_cases hx with ⟨ex, _⟩ | hx <;> rcases index_idx_cases hy with ⟨ey, _⟩ | hy
    · rw [ex, ey]
    · exact absurd (ex ▸ hxy).symm (hf _ _ _ hy).1
    · exact absurd (ey ▸ hxy) (hf _ _ _ hx).1
    · exact hi.hashinj _ _ _ _ _ _ hx hy hxy
  · intro k n x hx
    rw [hidx] at hx
    rcases index_idx_cases hx with ⟨rfl, _⟩ | hx
    · exact hto hhb
    · exact hto (Anc.mono hsub (hi.desc _ _ _ hx))

/-- the main-chain rewrite moves the one-chain clause from the old latest header to the new one,
    when both descend from `b`: it succeeds, and exposes the consensus states of the new header's
    ancestors (from some fork height up it writes them; below, the new header's ancestors are the
    old one's, and are left alone) -/
theorem restrict_spec {c2 : Client} (hk : KeysOk c2) {b old h : Hdr}
    (hsh : Stored c2 h) (hhb : Anc c2 h b) (hso : Stored c2 old) (hob : Anc c2 old b)
    (hmain : ∀ a, Anc c2 old a → c2.cons a.number = some (consOf a))
    (hroots : ∀ a, Anc c2 old a → c2.rootMain (a.root, a.number) = some (a.hash, a.number)) :
    ∃ c3, restrict c2 old h = some c3 ∧ c3.idx = c2.idx ∧ c3.rootMain = c2.rootMain ∧
      ∀ a, Anc c2 h a → c3.cons a.number = some (consOf a) := by
  -- the start header: the old chain's header at the new one's height, found through the root index
  obtain ⟨cur, hstart, hoc, hcb, hcn⟩ : ∃ cur, startOf c2 old h = some cur ∧ Anc c2 old cur ∧ Anc c2 cur b ∧
      cur.number ≤ h.number := by
    unfold startOf
    by_cases hgt : old.number > h.number
    · obtain ⟨m, hm1, hm2, hm3⟩ := hob.exists_at hk h.number (hhb.number_le hk) (Nat.le_of_lt hgt)
      refine ⟨m, ?_, hm1, hm3, Nat.le_of_eq hm2⟩
      rw [if_pos hgt, ← hm2]
      simp only [hmain m hm1, consOf, hroots m hm1]
      exact hm1.stored hk hso
    · exact ⟨old, by simp only [hgt, if_false], Anc.refl _, hob, Nat.le_of_not_lt hgt⟩
  have hbn := hcb.number_le hk
  obtain ⟨n1, acc1, hd, hp1, hl1, hn1b, hn1⟩ :=
    descend_spec hk (h.number - cur.number) h [] trivial hhb (by omega)
  obtain ⟨n2, acc2, cur2, hm, hp2, hl2, hc2, hnum2, hpar2⟩ :=
    meet_spec hk n1.number cur n1 acc1 hp1 hcb hn1b (by omega) (Nat.le_add_left ..)
  have hlast : lastOf n2 acc2 = h := by rw [hl2, hl1]; rfl
  have hanc : ∀ x ∈ n2 :: acc2, Anc c2 h x := fun x hx => hlast ▸ IsPath.mem_anc hp2 x hx
  obtain ⟨c3, hr, h5, h6⟩ := rewrite_spec acc2 c2 n2 hk hp2 (fun x hx => (hanc x hx).stored hk hsh)
  obtain ⟨h1, h2, _⟩ := rewrite_frame hr
  refine ⟨c3, ?_, h1, h2, fun a ha => ?_⟩
  · unfold restrict; simp only [hstart, hd, hm]; exact hr
  by_cases hge : n2.number ≤ a.number
  · obtain ⟨y, hy, hyn⟩ := IsPath.covers hk hp2 a.number hge (by rw [hlast]; exact ha.number_le hk)
    rw [Anc.unique hk ha (hanc y hy) hyn.symm]; exact h5 y hy
  · -- below the fork height: an ancestor of the parent the two branches share
    have hlt := Nat.lt_of_not_le hge
    obtain ⟨q, hq, hqa⟩ := (Anc.between hk ha (hanc n2 List.mem_cons_self) (Nat.le_of_lt hlt)).lower hlt
    have hq2 : parentOf c2 cur2 = some q := by unfold parentOf at hq ⊢; rw [hnum2, hpar2]; exact hq
    exact (h6 a.number hlt).trans (hmain a ((hoc.trans hc2).trans (Anc.step hq2 hqa)))

/-- **An accepted header keeps the client on one chain** (no consensus state is pruned in this
    step): the store stays well-formed, every stored header still descends from the trusted header,
    and the consensus states exposed for heights up to the new latest header are exactly its
    ancestors' — whether the header extends the latest one or switches to a fork of any depth.
    Also: the main-chain rewrite cannot fail. -/
theorem applyHeader_inv {c : Client} {b h p : Hdr} (hi : Inv c b) (hf : Fresh c h) (hpar : parentOf c h = some p) :
    ∃ c', applyHeader c h = some c' ∧ Inv c' b ∧ c'.latest = h := by
  have hk := hi.keys
  have hk2 : KeysOk (index c h) := index_keys hk h
  have hps := parentOf_spec hk hpar
  have hpar2 : parentOf (index c h) h = some p := parentOf_mono (index_sub hk hf) hpar
  have hso : Stored c c.latest := hi.latest
  have hmono : ∀ {x a}, Anc c x a → Anc (index c h) x a := Anc.mono (index_sub hk hf)
  -- common final step: from a state `c3` sharing the indexes, whose consensus states below `h` are right
  have finish : ∀ (c3 : Client), c3.idx = (index c h).idx → c3.rootMain = (index c h).rootMain →
      (∀ a, Anc (index c h) h a → a.number < h.number → c3.cons a.number = some (consOf a)) →
      Inv { c3 with latest := h, cons := upd c3.cons h.number (some (consOf h)), heights := insertHeight h.number c3.heights } b := by
    intro c3 hidx hrm hcons
    refine hi.indexed hf hpar hidx hrm rfl fun a ha => ?_
    by_cases heq : a.number = h.number
    · rw [Anc.unique hk2 ha (Anc.refl h) heq]; exact upd_same ..
    · exact (upd_other _ _ _ _ heq).trans (hcons a ha (Nat.lt_of_le_of_ne (ha.number_le hk2) heq))
  unfold applyHeader
  by_cases hext : c.latest.hash = h.parent
  · -- the header extends the latest header
    simp only [hext, beq_self_eq_true, if_true, Option.map_some]
    refine ⟨_, rfl, finish (index c h) rfl rfl fun a ha hlt => ?_, rfl⟩
    obtain ⟨p', hp', hr⟩ := ha.lower hlt
    cases hpar2.symm.trans hp'
    cases hi.hashinj _ _ _ _ _ _ hps.2.2.2 hso (hps.2.2.1.trans hext.symm)
    exact hi.main a (index_anc_old hk hf hso hr)
  · -- the header is on another branch: main-chain rewrite
    simp only [beq_iff_eq, hext, if_false]
    have hhb2 : Anc (index c h) h b := Anc.step hpar2 (hmono (hi.desc _ _ _ hps.2.2.2))
    have hold : ∀ {a}, Anc (index c h) c.latest a → Anc c c.latest a ∧ Stored c a := fun ha =>
      have ha := index_anc_old hk hf hso ha
      ⟨ha, ha.stored hk hso⟩
    obtain ⟨c3, hres, hidx, hrm, hcons⟩ :=
      restrict_spec hk2 (index_stored_new c h) hhb2 (index_sub hk hf _ _ hso) (hmono (hi.desc _ _ _ hso))
        (fun a ha => hi.main a (hold ha).1)
        (fun a ha => (index_rootMain_old hf (hold ha).2).trans (hi.roots _ _ _ (hold ha).2))
    simp only [hres, Option.map_some]
    exact ⟨_, rfl, finish c3 hidx hrm fun a ha _ => hcons a ha, rfl⟩

end Tibc.ETH
