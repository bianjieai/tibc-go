import Tibc.LC.Tendermint
/-
  The order-sensitive commit rule of cometbft's `VerifyCommitLight`, characterised; the validity
  check and the `UpdateClient` gate of the Tendermint client as conjunctions of their conditions;
  `Height.lt` is transitive.
-/
namespace Tibc.TM

/-- the commit entries that count (flag = commit), paired by index with the validator's power -/
def counted : List Val → List CSig → List (Nat × Bool)
  | v :: vs, s :: ss => if s.flag != .commit then counted vs ss else (v.power, s.sigOk) :: counted vs ss
  | _, _ => []

def scanC (needed : Nat) : List (Nat × Bool) → Nat → Bool
  | (p, ok) :: rest, tally =>
    if !ok then false else if tally + p > needed then true else scanC needed rest (tally + p)
  | [], _ => false

theorem scanByIndex_eq (needed : Nat) (vals : List Val) (commit : List CSig) (tally : Nat) :
    scanByIndex needed vals commit tally = scanC needed (counted vals commit) tally := by
  induction vals generalizing commit tally with
  | nil => cases commit <;> rfl
  | cons v vs ih =>
    cases commit with
    | nil => rfl
    | cons s ss =>
      unfold scanByIndex counted
      by_cases hf : (s.flag != Flag.commit) = true
      · rw [if_pos hf, if_pos hf]; exact ih ss tally
      · rw [if_neg hf, if_neg hf]; unfold scanC; rw [ih ss (tally + v.power)]

def sumPow (l : List (Nat × Bool)) : Nat := (l.map (·.1)).foldl (· + ·) 0

theorem sumPow_cons (x : Nat × Bool) (l : List (Nat × Bool)) : sumPow (x :: l) = x.1 + sumPow l := by
  simp only [sumPow, ← List.sum_eq_foldl_nat, List.map_cons, List.sum_cons]

/-- **The rule.** The scan accepts iff some non-empty prefix of the counted entries consists of
    valid signatures only and carries more than `needed` voting power (on top of `tally`), and no
    shorter prefix already did — i.e. the *shortest* prefix that exceeds the threshold is all-valid. -/
theorem scanC_iff (needed : Nat) (l : List (Nat × Bool)) (tally : Nat) (ht : tally ≤ needed) :
    scanC needed l tally = true ↔
      ∃ k, 1 ≤ k ∧ k ≤ l.length ∧ (∀ x ∈ l.take k, x.2 = true) ∧ tally + sumPow (l.take k) > needed := by
  induction l generalizing tally with
  | nil => exact ⟨nofun, fun ⟨k, h1, hk, _⟩ => absurd (Nat.le_trans h1 hk) (by decide)⟩
  | cons x rest ih =>
    obtain ⟨p, ok⟩ := x
    unfold scanC
    constructor
    · intro h
      cases ok with
      | false => cases h
      | true =>
        by_cases hgt : tally + p > needed
        · exact ⟨1, Nat.le_refl 1, Nat.succ_le_succ (Nat.zero_le _), by simp, by simpa [sumPow] using hgt⟩
        · simp only [hgt] at h
          obtain ⟨k, _, hk, hall, hs⟩ := (ih (tally + p) (Nat.not_lt.mp hgt)).mp h
          refine ⟨k + 1, Nat.le_add_left 1 k, Nat.succ_le_succ hk, ?_, ?_⟩
          · simpa only [List.take_succ_cons, List.forall_mem_cons, true_and] using hall
          · simpa only [List.take_succ_cons, sumPow_cons, ← Nat.add_assoc] using hs
    · rintro ⟨k, h1, hk, hall, hs⟩
      cases k with
      | zero => cases h1
      | succ k =>
        simp only [List.take_succ_cons, List.forall_mem_cons, sumPow_cons, ← Nat.add_assoc] at hall hs
        simp only [hall.1, Bool.not_true, Bool.false_eq_true, if_false]
        by_cases hgt : tally + p > needed
        · rw [if_pos hgt]
        · rw [if_neg hgt]
          -- the rest of the prefix is not empty: `tally + p` alone does not exceed the threshold
          have hk1 : 1 ≤ k := Nat.pos_of_ne_zero fun h0 => hgt (by simpa [h0, sumPow] using hs)
          exact (ih (tally + p) (Nat.not_lt.mp hgt)).mpr ⟨k, hk1, Nat.le_of_succ_le_succ hk, hall.2, hs⟩

theorem Height.lt_trans {a b c : Height} (h1 : a.lt b = true) (h2 : b.lt c = true) : a.lt c = true := by
  unfold Height.lt at *
  simp only [Bool.or_eq_true, decide_eq_true_eq, Bool.and_eq_true, beq_iff_eq] at *
  omega

variable (Hv : List Val → Digest)

theorem checkValidity_iff (cl : Client) (tc : Cons) (hdr : Header) (now : Nat) :
    checkValidity Hv cl tc hdr now = true ↔
      Hv hdr.trustedVals = tc.nextVals ∧ hdr.height.rev = hdr.trustedHeight.rev ∧ hdr.basicOk = true ∧
      hdr.height.le hdr.trustedHeight = false ∧ tc.time + cl.period > now ∧
      hdr.height.h > hdr.trustedHeight.h ∧ hdr.time > tc.time ∧ hdr.time < now + cl.drift ∧
      hdr.valsHash = Hv hdr.vals ∧
      (if hdr.height.h = hdr.trustedHeight.h + 1 then hdr.valsHash = tc.nextVals
       else verifyCommitLightTrusting hdr.trustedVals hdr.commit cl.trustNum cl.trustDen = true) ∧
      verifyCommitLight hdr.vals hdr.commit = true := by
  unfold checkValidity lightVerify verifyNewHeaderAndVals isExpired
  -- `basicOk` is checked twice; deciding it first leaves two plain conjunctions
  cases hdr.basicOk
  · simp only [Bool.and_false, Bool.false_and, Bool.false_eq_true, false_and, and_false]
  · by_cases hadj : hdr.height.h = hdr.trustedHeight.h + 1 <;>
    simp only [hadj, if_true, if_false, beq_iff_eq, Bool.and_eq_true, Bool.not_eq_true', Bool.not_not,
      decide_eq_true_eq, true_and, and_assoc]

theorem updateClient_of_not_active {cl : Client} (hdr : Header) {now : Nat} (hs : status cl now ≠ .active) :
    updateClient Hv cl hdr now = .error .notActive := by
  unfold updateClient; rw [if_pos (bne_iff_ne.mpr hs)]

theorem updateClient_eq_ok {cl cl' : Client} {hdr : Header} {now : Nat} :
    updateClient Hv cl hdr now = .ok cl' ↔
      status cl now = .active ∧ checkHeaderAndUpdate Hv cl hdr now = some cl' := by
  by_cases hs : status cl now = .active
  · unfold updateClient; rw [hs]; cases checkHeaderAndUpdate Hv cl hdr now <;> simp
  · rw [updateClient_of_not_active Hv hdr hs]; simp [hs]

end Tibc.TM
