import Tibc.App.ClassPath
import Tibc.Lemmas.Split
/-
  The class-path functions (`App/ClassPath`) as functions of the list of `/`-separated fields of
  their argument.
-/
namespace Tibc

/-!
  The class-path functions read their argument `q` only through `splitOnChar delim q`. Each
  `…_of_split` lemma says what the function returns when that list of fields is `init` followed by
  the named last fields; for a `q` that is given as a join, `split_join` supplies the hypothesis.
-/
namespace ClassPath

theorem hasDelim_iff (s : Str) : hasDelim s = true ↔ delim ∈ s := List.contains_iff_mem

theorem hasDelim_eq_false (s : Str) : hasDelim s = false ↔ delim ∉ s := by
  rw [← hasDelim_iff, Bool.not_eq_true]

theorem hasDelim_of_split {q : Str} {init : List Str} {l : Str} (h : splitOnChar delim q = init ++ [l])
    (hne : init ≠ []) : hasDelim q = true := by
  rw [hasDelim_iff, ← join_split delim q, h, joinWith_snoc _ _ _ hne]
  exact List.mem_append_right _ List.mem_cons_self

theorem concat_eq_join (pfx s d b : Str) : concat pfx s d b = joinWith delim [pfx, s, d, b] := by
  simp only [concat, joinWith, List.append_assoc, List.cons_append]

theorem getAway_base (pfx s d b : Str) (h : delim ∉ b) : getAway pfx s d b = joinWith delim [pfx, s, d, b] := by
  unfold getAway
  rw [(hasDelim_eq_false b).2 h, Bool.and_false, if_neg Bool.false_ne_true, concat_eq_join]

theorem getAway_of_split (pfx s d : Str) {q : Str} {init : List Str} {l : Str}
    (h : splitOnChar delim q = init ++ [l]) (hne : init ≠ []) (hpre : hasPrefix pfx q = true) :
    getAway pfx s d q = joinWith delim (init ++ [d, l]) := by
  unfold getAway
  rw [hpre, hasDelim_of_split h hne, Bool.and_self, if_pos rfl]
  simp only [h, List.dropLast_concat, List.getLast?_concat, Option.toList, List.append_assoc, List.cons_append,
    List.nil_append]

theorem getBack_of_split {q : Str} {init : List Str} {x l : Str} (h : splitOnChar delim q = init ++ [x, l]) :
    getBack q = if init.length = 2 then some l else some (joinWith delim (init ++ [l])) := by
  have hlen : (init ++ [x, l]).length = init.length + 2 := List.length_append
  have hlast : (init ++ [x, l]).getLast? = some l := by rw [List.append_cons, List.getLast?_concat]
  unfold getBack
  simp only [h, hlen, hlast, Nat.add_sub_cancel, List.take_left, Option.toList, Nat.reduceEqDiff,
    if_neg (Nat.not_lt.2 (Nat.le_add_left 2 init.length))]

theorem thirdFromEnd_append (init : List Str) (x y z : Str) : thirdFromEnd (init ++ [x, y, z]) = some x := by
  have hlen : (init ++ [x, y, z]).length = init.length + 3 := List.length_append
  unfold thirdFromEnd
  rw [hlen, if_pos (Nat.le_add_left _ _), Nat.add_sub_cancel, List.getElem?_append_right (Nat.le_refl _), Nat.sub_self]
  rfl

theorem determineAway_of_split (pfx y : Str) {q : Str} {init : List Str} {a b c : Str}
    (h : splitOnChar delim q = init ++ [a, b, c]) (hpre : hasPrefix pfx q = true) :
    determineAway pfx q y = some (a != y) := by
  have hdel : hasDelim q = true :=
    hasDelim_of_split (h.trans (List.append_assoc init [a, b] [c]).symm)
      (List.append_ne_nil_of_right_ne_nil _ (List.cons_ne_nil _ _))
  unfold determineAway
  rw [hpre, hdel, h, thirdFromEnd_append]
  rfl

theorem parseTrace_single {q l : Str} (h : splitOnChar delim q = [l]) : parseTrace q = ([], q) := by
  unfold parseTrace
  rw [h]

theorem parseTrace_of_split {q : Str} {init : List Str} {l : Str} (h : splitOnChar delim q = init ++ [l])
    (hne : init ≠ []) : parseTrace q = (joinWith delim init, l) := by
  unfold parseTrace
  rw [h]
  cases init with
  | nil => exact absurd rfl hne
  | cons a rest =>
    cases rest with
    | nil => rfl
    | cons b rest =>
      show (joinWith delim (a :: b :: rest ++ [l]).dropLast, (a :: b :: rest ++ [l]).getLast?.getD []) = _
      rw [List.dropLast_concat, List.getLast?_concat, Option.getD_some]

/-- three fields are excluded: the way out makes four of them, and `getBack` answers four fields
    with the last one alone -/
theorem getBack_getAway_join (pfx s d : Str) (parts : List Str) (h2 : 2 ≤ parts.length) (h3 : parts.length ≠ 3)
    (hfree : ∀ x ∈ parts, delim ∉ x) (hd : delim ∉ d) (hpre : hasPrefix pfx (joinWith delim parts) = true) :
    getBack (getAway pfx s d (joinWith delim parts)) = some (joinWith delim parts) := by
  obtain ⟨init, l, rfl⟩ := exists_snoc parts (List.ne_nil_of_length_pos (Nat.lt_of_lt_of_le Nat.two_pos h2))
  rw [List.length_append, List.length_singleton] at h2 h3
  have hfree' : ∀ x ∈ init ++ [d, l], delim ∉ x := by
    rw [List.forall_mem_append] at hfree ⊢
    exact ⟨hfree.1, List.forall_mem_cons.2 ⟨hd, hfree.2⟩⟩
  rw [getAway_of_split pfx s d (split_join delim _ (List.concat_ne_nil _ _) hfree)
      (List.ne_nil_of_length_pos (Nat.le_of_succ_le_succ h2)) hpre,
    getBack_of_split (split_join delim _ (List.append_ne_nil_of_right_ne_nil _ (List.cons_ne_nil _ _)) hfree'),
    if_neg (fun e => h3 (congrArg Nat.succ e))]

end ClassPath

end Tibc
