import Tibc.LC.Bsc
/- Membership in the validator set `vset` and in the recent-sealer table as `update` leaves it;
   `CheckHeaderAndUpdateState` as its check and `update`. -/
namespace Tibc.BSC

theorem mem_insertAsc (a x : Addr) (l : List Addr) : x ∈ insertAsc a l ↔ x = a ∨ x ∈ l := by
  fun_induction insertAsc a l with
  | case1 => simp
  | case2 b rest h1 => rw [List.mem_cons]
  | case3 rest h1 => rw [List.mem_cons, ← or_assoc, or_self]
  | case4 b rest h1 h2 ih => rw [List.mem_cons, ih, List.mem_cons]; exact or_left_comm

theorem mem_vset (x : Addr) (vals : List Addr) : x ∈ vset vals ↔ x ∈ vals := by
  unfold vset
  induction vals with
  | nil => simp
  | cons v rest ih => simp only [List.foldr_cons, mem_insertAsc, ih, List.mem_cons]

theorem mem_delRecent (rs : List (Nat × Addr)) (n : Nat) (e : Nat × Addr) :
    e ∈ delRecent rs n ↔ e ∈ rs ∧ e.1 ≠ n := by
  unfold delRecent
  simp

theorem mem_shrinkPrune (rs : List (Nat × Addr)) (number newLimit k : Nat) (e : Nat × Addr) :
    e ∈ shrinkPrune rs number newLimit k ↔
      e ∈ rs ∧ ∀ i, i < k → number ≥ newLimit + i → e.1 ≠ number - newLimit - i := by
  fun_induction shrinkPrune rs number newLimit k with
  | case1 => simp
  | case2 k rs' hge ih => rw [Nat.forall_lt_succ_right, mem_delRecent, ih, and_assoc, imp_iff_right hge]
  | case3 k rs' hge ih => rw [Nat.forall_lt_succ_right, ih, iff_true_intro (absurd · hge), and_true]

theorem length_insertAsc_le (a : Addr) (l : List Addr) : (insertAsc a l).length ≤ l.length + 1 := by
  fun_induction insertAsc a l with
  | case1 => exact Nat.le_refl _
  | case2 b rest h1 => exact Nat.le_refl _
  | case3 rest h1 => exact Nat.le_succ _
  | case4 b rest h1 h2 ih => exact Nat.succ_le_succ ih

theorem length_vset_le (l : List Addr) : (vset l).length ≤ l.length := by
  induction l with
  | nil => exact Nat.le_refl _
  | cons v rest ih => exact Nat.le_trans (length_insertAsc_le v _) (Nat.succ_le_succ ih)

theorem checkHeaderAndUpdate_eq_some {c c' : Client} {h : Hdr} :
    checkHeaderAndUpdate c h = some c' ↔ accepts c h = true ∧ ∃ s, h.signer = some s ∧ update c h s = c' := by
  unfold checkHeaderAndUpdate
  cases accepts c h <;> cases h.signer <;> simp

theorem mem_shrinkPrune_of_window {rs : List (Nat × Addr)} {n lim : Nat} (k : Nat) {e : Nat × Addr}
    (h : e ∈ rs) (hw : n < e.1 + lim) : e ∈ shrinkPrune rs n lim k :=
  (mem_shrinkPrune ..).mpr ⟨h, fun i _ hg => by omega⟩

theorem mem_dropOld_of_window {rs : List (Nat × Addr)} {n lim : Nat} {e : Nat × Addr}
    (h : e ∈ rs) (hw : n < e.1 + lim) : e ∈ (if n ≥ lim then delRecent rs (n - lim) else rs) := by
  by_cases hg : n ≥ lim
  · rw [if_pos hg, mem_delRecent]; exact ⟨h, by omega⟩
  · rw [if_neg hg]; exact h

/-- `update` keeps every entry of the recent-sealer table, the new one included, that lies inside
    the window of the validator set it installs: all its deletions are at heights
    `≤ number - limit` of that set -/
theorem mem_update_recents {c : Client} {h : Hdr} {s : Addr} {e : Nat × Addr}
    (hm : e = (h.number, s) ∨ e ∈ c.recents ∧ e.1 ≠ h.number)
    (hw : h.number ≤ e.1 + (vset (update c h s).validators).length / 2) : e ∈ (update c h s).recents := by
  have h0 : e ∈ delRecent c.recents h.number ++ [(h.number, s)] := by
    rw [List.mem_append, mem_delRecent, List.mem_singleton]; exact hm.symm
  -- `update` takes its limit from the stored list, which is no shorter than the set
  have win : ∀ l : List Addr, h.number ≤ e.1 + (vset l).length / 2 → h.number < e.1 + (l.length / 2 + 1) := fun l hl =>
    Nat.lt_succ_of_le (Nat.le_trans hl (Nat.add_le_add_left (Nat.div_le_div_right (length_vset_le l)) _))
  unfold update at hw ⊢
  simp only at hw ⊢
  generalize (h.number % c.epoch == c.validators.length / 2) = sw at hw ⊢
  cases sw
  · exact mem_dropOld_of_window h0 (win _ hw)
  · exact mem_dropOld_of_window (mem_shrinkPrune_of_window _ h0 (Nat.lt_succ_of_le hw)) (win _ hw)

end Tibc.BSC
