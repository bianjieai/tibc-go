import Tibc.App.Tokens
/-
  Per-chain conservation of the multi-token module: for every (class, id) the balances of all
  holders add up to the recorded supply, and nothing exceeds 2^64-1 — preserved by every keeper
  operation the users and the transfer application can reach, whatever its outcome.
-/
namespace Tibc
open MtMod

def sumOver (A : List Addr) (f : Addr → Nat) : Nat := (A.map f).sum

theorem sumOver_cons (a : Addr) (A : List Addr) (f : Addr → Nat) : sumOver (a :: A) f = f a + sumOver A f := by
  simp [sumOver]

theorem sumOver_congr {A : List Addr} {f g : Addr → Nat} (h : ∀ a ∈ A, f a = g a) : sumOver A f = sumOver A g :=
  congrArg List.sum (List.map_congr_left h)

/-- the invariant, with an explicit finite list of (possible) holders -/
def MtInvOn (m : MtMod) (A : List Addr) : Prop :=
  A.Nodup ∧ (∀ cls id a, a ∉ A → m.bal (cls, id, a) = 0) ∧
  (∀ cls id, sumOver A (fun a => m.bal (cls, id, a)) = m.supply (cls, id)) ∧
  (∀ cls id, m.supply (cls, id) ≤ U64MAX)

/-- **Conservation invariant**: some finite set of holders accounts for every balance, the
    balances of every (class, id) add up to its supply, and every supply fits 64 bits. -/
def MtInv (m : MtMod) : Prop := ∃ A, MtInvOn m A

theorem MtInvOn.nodup {m : MtMod} {A : List Addr} (h : MtInvOn m A) : A.Nodup := h.1

theorem MtInvOn.outside {m : MtMod} {A : List Addr} (h : MtInvOn m A) (cls id : Str) {a : Addr} (ha : a ∉ A) :
    m.bal (cls, id, a) = 0 := h.2.1 cls id a ha

theorem MtInvOn.sum_eq {m : MtMod} {A : List Addr} (h : MtInvOn m A) (cls id : Str) :
    sumOver A (fun a => m.bal (cls, id, a)) = m.supply (cls, id) := h.2.2.1 cls id

theorem MtInvOn.supply_le {m : MtMod} {A : List Addr} (h : MtInvOn m A) (cls id : Str) : m.supply (cls, id) ≤ U64MAX :=
  h.2.2.2 cls id

/-- the list of holders can be arranged to begin with any given address: what is proved about one
    holder is proved about the head of the list -/
theorem MtInvOn.pull {m : MtMod} {A : List Addr} (h : MtInvOn m A) (x : Addr) : MtInvOn m (x :: A.erase x) := by
  by_cases hx : x ∈ A
  · refine ⟨List.nodup_cons.mpr ⟨h.nodup.not_mem_erase, h.nodup.erase x⟩, fun cls id a ha => ?_, fun cls id => ?_, h.supply_le⟩
    · exact h.outside cls id fun e => ha (List.mem_cons.mpr
        ((Decidable.em (a = x)).imp_right fun ne => (List.mem_erase_of_ne ne).mpr e))
    · exact (((List.perm_cons_erase hx).map _).sum_nat).symm.trans (h.sum_eq cls id)
  · rw [List.erase_of_not_mem hx]
    refine ⟨List.nodup_cons.mpr ⟨hx, h.nodup⟩, fun cls id a ha => ?_, fun cls id => ?_, h.supply_le⟩
    · exact h.outside cls id fun e => ha (List.mem_cons_of_mem _ e)
    · rw [sumOver_cons, h.outside cls id hx, Nat.zero_add]
      exact h.sum_eq cls id

theorem mtInv_empty : MtInv MtMod.empty := ⟨[], List.nodup_nil, fun _ _ _ _ => rfl, fun _ _ => rfl, fun _ _ => by simp [MtMod.empty]⟩

theorem MtInv.supply_le {m : MtMod} (h : MtInv m) (cls id : Str) : m.supply (cls, id) ≤ U64MAX :=
  h.elim fun _ hA => hA.supply_le cls id

theorem MtInv.bal_le {m : MtMod} (h : MtInv m) (cls id : Str) (a : Addr) : m.bal (cls, id, a) ≤ m.supply (cls, id) := by
  obtain ⟨A, hA⟩ := h
  rw [← (hA.pull a).sum_eq cls id, sumOver_cons]; exact Nat.le_add_right _ _

theorem MtInv.two_bal_le {m : MtMod} (h : MtInv m) (cls id : Str) {a b : Addr} (hne : a ≠ b) :
    m.bal (cls, id, a) + m.bal (cls, id, b) ≤ m.supply (cls, id) := by
  obtain ⟨A, hA⟩ := h
  have h2 := ((hA.pull a).pull b).sum_eq cls id
  rw [List.erase_cons_tail (mt beq_iff_eq.mp hne), sumOver_cons, sumOver_cons] at h2
  omega

theorem MtInv.congr {m m' : MtMod} (h : MtInv m) (hb : m'.bal = m.bal) (hs : m'.supply = m.supply) : MtInv m' := by
  unfold MtInv MtInvOn at *; rw [hb, hs]; exact h

/-- the one move every keeper operation is made of: one holder's balance of one (class, id) and
    that supply change by the same amount -/
theorem MtInv.update {m : MtMod} (h : MtInv m) (cls id : Str) (a0 : Addr) (v s' : Nat) (m' : MtMod)
    (hbal : m'.bal = upd m.bal (cls, id, a0) v) (hsup : m'.supply = upd m.supply (cls, id) s')
    (hsum : s' + m.bal (cls, id, a0) = m.supply (cls, id) + v) (hb : s' ≤ U64MAX) : MtInv m' := by
  obtain ⟨A, hA⟩ := h
  obtain ⟨B, h⟩ : ∃ B, MtInvOn m (a0 :: B) := ⟨_, hA.pull a0⟩
  -- no balance but `a0`'s moves, and `a0` is not in `B`
  have other : ∀ c i a, a ≠ a0 → m'.bal (c, i, a) = m.bal (c, i, a) := fun c i a ne => by
    rw [hbal]; exact upd_other _ _ _ _ fun e => ne (congrArg (·.2.2) e)
  have hB : ∀ a ∈ B, a ≠ a0 := fun a ha e => (List.nodup_cons.mp h.nodup).1 (e ▸ ha)
  refine ⟨a0 :: B, h.nodup, fun c i a ha => ?_, fun c i => ?_, fun c i => ?_⟩
  · rw [other c i a fun e => ha (e ▸ List.mem_cons_self)]; exact h.outside c i ha
  · have := h.sum_eq c i
    rw [sumOver_cons] at this ⊢
    rw [sumOver_congr fun a ha => other c i a (hB a ha), hbal, hsup]
    by_cases hk : (c, i) = (cls, id)
    · cases hk; rw [upd_same, upd_same]; omega
    · rw [upd_other _ _ _ _ hk, upd_other _ _ _ _ fun e => hk (by cases e; rfl)]; exact this
  · rw [hsup, upd_apply]; split
    · exact hb
    · exact h.supply_le c i

theorem sub_mod_wrap (N a b : Nat) (ha : a < N) (hb : b ≤ a) : (a + N - b % N) % N = a - b := by
  rw [Nat.mod_eq_of_lt (Nat.lt_of_le_of_lt hb ha), Nat.sub_add_comm hb, Nat.add_mod_right,
    Nat.mod_eq_of_lt (Nat.lt_of_le_of_lt (Nat.sub_le a b) ha)]

/-- unchecked subtraction does not wrap when dominated by a preceding `≥` check -/
theorem subWrap_of_le {a b : Nat} (ha : a ≤ U64MAX) (hb : b ≤ a) : subWrap a b = a - b :=
  sub_mod_wrap (2 ^ 64) a b (by unfold U64MAX at ha; omega) hb

theorem key_ne {cls id : Str} {a b : Addr} (h : a ≠ b) : (cls, id, a) ≠ (cls, id, b) :=
  fun e => h (congrArg (fun x => x.2.2) e)

namespace MtMod

theorem transferOwner_eq (m : MtMod) (cls id : Str) (amt : Nat) (src dst : Addr) (hne : src ≠ dst)
    (hsrc : m.bal (cls, id, src) ≤ U64MAX) (henough : amt ≤ m.bal (cls, id, src))
    (hroom : m.bal (cls, id, dst) + amt ≤ U64MAX) :
    transferOwner m cls id amt src dst =
      ({ m with bal := upd (upd m.bal (cls, id, src) (m.bal (cls, id, src) - amt)) (cls, id, dst) (m.bal (cls, id, dst) + amt) }, .ok) := by
  unfold transferOwner addBalance subBalance
  rw [if_neg (Nat.not_lt.2 henough)]
  simp only [upd_other _ _ _ _ (key_ne (Ne.symm hne))]
  rw [if_neg (Nat.not_lt.2 (Nat.le_sub_of_add_le' hroom)), subWrap_of_le hsrc henough]

theorem transferOwner_cases (m : MtMod) (cls id : Str) (amt : Nat) {src dst : Addr} (hne : src ≠ dst)
    (hsrc : m.bal (cls, id, src) ≤ U64MAX) (hroom : amt ≤ m.bal (cls, id, src) → m.bal (cls, id, dst) + amt ≤ U64MAX) :
    (amt ≤ m.bal (cls, id, src) ∧ transferOwner m cls id amt src dst =
      ({ m with bal := upd (upd m.bal (cls, id, src) (m.bal (cls, id, src) - amt)) (cls, id, dst) (m.bal (cls, id, dst) + amt) }, .ok)) ∨
    transferOwner m cls id amt src dst = (m, .err (.app "sdk/5")) := by
  by_cases hlt : m.bal (cls, id, src) < amt
  · exact .inr (if_pos hlt)
  · have hen := Nat.le_of_not_lt hlt
    exact .inl ⟨hen, transferOwner_eq m cls id amt src dst hne hsrc hen (hroom hen)⟩

/-- to oneself: refused, or taken and given back -/
theorem transferOwner_self (m : MtMod) (cls id : Str) (amt : Nat) (src : Addr) (hsrc : m.bal (cls, id, src) ≤ U64MAX) :
    (transferOwner m cls id amt src src).1 = m := by
  unfold transferOwner
  by_cases hlt : m.bal (cls, id, src) < amt
  · rw [if_pos hlt]
  · have hen := Nat.le_of_not_lt hlt
    unfold addBalance subBalance
    rw [if_neg hlt]
    simp only [upd_same, subWrap_of_le hsrc hen]
    rw [if_neg (by omega), upd_upd, Nat.sub_add_cancel hen, upd_self]

/-- handing back what `transferOwner_eq` moved restores the balances `b` it started from -/
theorem transferOwner_undo (m : MtMod) (cls id : Str) (amt : Nat) (src dst : Addr) (b : Str × Str × Addr → Nat)
    (hne : src ≠ dst)
    (hm : m.bal = upd (upd b (cls, id, src) (b (cls, id, src) - amt)) (cls, id, dst) (b (cls, id, dst) + amt))
    (henough : amt ≤ b (cls, id, src)) (hsrc : b (cls, id, src) ≤ U64MAX) (hdst : b (cls, id, dst) + amt ≤ U64MAX) :
    transferOwner m cls id amt dst src = ({ m with bal := b }, .ok) := by
  have hd : m.bal (cls, id, dst) = b (cls, id, dst) + amt := by rw [hm, upd_same]
  have hs : m.bal (cls, id, src) = b (cls, id, src) - amt := by rw [hm, upd_other _ _ _ _ (key_ne hne), upd_same]
  rw [transferOwner_eq m cls id amt dst src (Ne.symm hne) (hd ▸ hdst) (hd ▸ Nat.le_add_left ..) (by omega),
    hd, hs, hm, upd_upd, Nat.add_sub_cancel, Nat.sub_add_cancel henough, upd_comm _ (key_ne hne), upd_upd, upd_self, upd_self]

theorem burn_cases (m : MtMod) (cls id : Str) (amt : Nat) (owner : Addr)
    (hb : m.bal (cls, id, owner) ≤ m.supply (cls, id)) (hs : m.supply (cls, id) ≤ U64MAX) :
    (amt ≤ m.bal (cls, id, owner) ∧ burn m cls id amt owner =
      ({ m with bal := upd m.bal (cls, id, owner) (m.bal (cls, id, owner) - amt),
                supply := upd m.supply (cls, id) (m.supply (cls, id) - amt) }, .ok)) ∨
    burn m cls id amt owner = (m, .err (.app "sdk/5")) := by
  unfold burn
  by_cases hlt : m.bal (cls, id, owner) < amt
  · exact .inr (if_pos hlt)
  · have hen := Nat.le_of_not_lt hlt
    unfold decSupply subBalance
    rw [if_neg hlt, subWrap_of_le (Nat.le_trans hb hs) hen, subWrap_of_le hs (Nat.le_trans hen hb)]
    exact .inl ⟨hen, rfl⟩

theorem mintMT_eq (m : MtMod) (cls id : Str) (amt : Nat) (rcpt : Addr)
    (hs : m.supply (cls, id) + amt ≤ U64MAX) (hb : m.bal (cls, id, rcpt) + amt ≤ U64MAX) :
    mintMT m cls id amt rcpt =
      ({ m with supply := upd m.supply (cls, id) (m.supply (cls, id) + amt),
                bal := upd m.bal (cls, id, rcpt) (m.bal (cls, id, rcpt) + amt) }, .ok) := by
  unfold mintMT incSupply
  simp only [if_neg (Nat.not_lt.2 (Nat.le_sub_of_add_le' hs))]
  unfold addBalance
  simp only [if_neg (Nat.not_lt.2 (Nat.le_sub_of_add_le' hb))]

theorem mintMT_cases (m : MtMod) (cls id : Str) (amt : Nat) (rcpt : Addr)
    (hb : m.bal (cls, id, rcpt) ≤ m.supply (cls, id)) (hs : m.supply (cls, id) ≤ U64MAX) :
    (m.supply (cls, id) + amt ≤ U64MAX ∧ mintMT m cls id amt rcpt =
      ({ m with supply := upd m.supply (cls, id) (m.supply (cls, id) + amt),
                bal := upd m.bal (cls, id, rcpt) (m.bal (cls, id, rcpt) + amt) }, .ok)) ∨
    mintMT m cls id amt rcpt = (m, .err (.app "sdk/18")) := by
  by_cases hfull : U64MAX - m.supply (cls, id) < amt
  · refine .inr ?_
    unfold mintMT incSupply; simp only [if_pos hfull]
  · have hroom : m.supply (cls, id) + amt ≤ U64MAX := Nat.add_le_of_le_sub' hs (Nat.le_of_not_lt hfull)
    exact .inl ⟨hroom, mintMT_eq m cls id amt rcpt hroom (Nat.le_trans (Nat.add_le_add_right hb amt) hroom)⟩

end MtMod

/-- one keeper operation of the multi-token module, whatever its outcome -/
inductive MtStep (m : MtMod) : MtMod → Prop
  | issueDenom (cls : Str) (owner : Addr) : MtStep m (m.issueDenom cls owner)
  | issueMT (cls id : Str) (amt : Nat) (rcpt : Addr) : MtStep m (m.issueMT cls id amt rcpt).1
  | mintMT (cls id : Str) (amt : Nat) (rcpt : Addr) : MtStep m (m.mintMT cls id amt rcpt).1
  | transferOwner (cls id : Str) (amt : Nat) (src dst : Addr) : MtStep m (m.transferOwner cls id amt src dst).1
  | burn (cls id : Str) (amt : Nat) (owner : Addr) : MtStep m (m.burn cls id amt owner).1

inductive MtSteps (m : MtMod) : MtMod → Prop
  | refl : MtSteps m m
  | step {n o : MtMod} : MtSteps m n → MtStep n o → MtSteps m o

theorem MtSteps.single {m n : MtMod} (h : MtStep m n) : MtSteps m n := .step .refl h

theorem MtSteps.trans {m n o : MtMod} (h1 : MtSteps m n) (h2 : MtSteps n o) : MtSteps m o := by
  induction h2 with
  | refl => exact h1
  | step _ hs ih => exact .step ih hs

theorem mintMT_inv {m : MtMod} (h : MtInv m) (cls id : Str) (amt : Nat) (rcpt : Addr) : MtInv (mintMT m cls id amt rcpt).1 := by
  rcases mintMT_cases m cls id amt rcpt (h.bal_le cls id rcpt) (h.supply_le cls id) with ⟨hroom, e⟩ | e <;> rw [e]
  · exact h.update cls id rcpt _ _ _ rfl rfl (by omega) hroom
  · exact h

theorem MtStep.inv {m m' : MtMod} (hs : MtStep m m') (h : MtInv m) : MtInv m' := by
  cases hs with
  | issueDenom cls owner => exact h.congr rfl rfl
  | issueMT cls id amt rcpt => exact mintMT_inv (m := { m with exists_ := upd m.exists_ (cls, id) true }) (h.congr rfl rfl) cls id amt rcpt
  | mintMT cls id amt rcpt => exact mintMT_inv h cls id amt rcpt
  | burn cls id amt owner =>
    have hb := h.bal_le cls id owner
    have hsup := h.supply_le cls id
    rcases burn_cases m cls id amt owner hb hsup with ⟨hen, e⟩ | e <;> rw [e]
    · exact h.update cls id owner _ _ _ rfl rfl (by omega) (Nat.le_trans (Nat.sub_le ..) hsup)
    · exact h
  | transferOwner cls id amt src dst =>
    have hb := h.bal_le cls id src
    have hsup := h.supply_le cls id
    by_cases hsd : src = dst
    · subst hsd; rw [transferOwner_self m cls id amt src (Nat.le_trans hb hsup)]; exact h
    have := h.two_bal_le cls id hsd
    rcases transferOwner_cases m cls id amt hsd (Nat.le_trans hb hsup) (fun _ => by omega) with ⟨hen, e⟩ | e <;> rw [e]
    case inr => exact h
    -- through a virtual state with the amount taken from `src` and from the supply
    have h1 := h.update cls id src (m.bal (cls, id, src) - amt) (m.supply (cls, id) - amt)
      { m with bal := upd m.bal (cls, id, src) (m.bal (cls, id, src) - amt),
               supply := upd m.supply (cls, id) (m.supply (cls, id) - amt) } rfl rfl (by omega) (Nat.le_trans (Nat.sub_le ..) hsup)
    refine h1.update cls id dst (m.bal (cls, id, dst) + amt) (m.supply (cls, id)) _ rfl ?_ ?_ hsup
    · rw [upd_upd, upd_self]
    · show _ + upd m.bal _ _ _ = upd m.supply _ _ _ + _
      rw [upd_other _ _ _ _ (key_ne (Ne.symm hsd)), upd_same]; omega

theorem MtSteps.inv {m m' : MtMod} (hs : MtSteps m m') (h : MtInv m) : MtInv m' := by
  induction hs with
  | refl => exact h
  | step _ hs ih => exact hs.inv ih

end Tibc
