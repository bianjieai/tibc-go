import Tibc.Packet.Keeper
/- The store accessors of the packet keeper (`keeper.go`), field by field: each setter changes one
   field of the state and leaves the others as they are. -/
namespace Tibc
namespace Core

variable (s : Core) (k : PKey) (pr : Pair) (d : Digest) (n : Nat) (e : Event)

@[simp] theorem emit_ps : (s.emit e).ps = s.ps := rfl
@[simp] theorem emit_clients : (s.emit e).clients = s.clients := rfl
@[simp] theorem emit_name : (s.emit e).name = s.name := rfl
@[simp] theorem emit_sent : (s.emit e).sent = s.sent := rfl
@[simp] theorem emit_ackLog : (s.emit e).ackLog = s.ackLog := rfl
@[simp] theorem emit_rules : (s.emit e).rules = s.rules := rfl
@[simp] theorem emit_evlog : (s.emit e).evlog = s.evlog ++ [e] := rfl
@[simp] theorem emit_now : (s.emit e).now = s.now := rfl
@[simp] theorem emit_relayers : (s.emit e).relayers = s.relayers := rfl
@[simp] theorem emit_authority : (s.emit e).authority = s.authority := rfl

@[simp] theorem setCommit_commit : (s.setCommit k d).ps.commit = upd s.ps.commit k (some d) := rfl
@[simp] theorem setCommit_receipt : (s.setCommit k d).ps.receipt = s.ps.receipt := rfl
@[simp] theorem setCommit_ack : (s.setCommit k d).ps.ack = s.ps.ack := rfl
@[simp] theorem setCommit_clean : (s.setCommit k d).ps.clean = s.ps.clean := rfl
@[simp] theorem setCommit_maxAck : (s.setCommit k d).ps.maxAck = s.ps.maxAck := rfl
@[simp] theorem setCommit_nextSend : (s.setCommit k d).ps.nextSend = s.ps.nextSend := rfl
@[simp] theorem setCommit_clients : (s.setCommit k d).clients = s.clients := rfl
@[simp] theorem setCommit_name : (s.setCommit k d).name = s.name := rfl
@[simp] theorem setCommit_sent : (s.setCommit k d).sent = s.sent := rfl
@[simp] theorem setCommit_ackLog : (s.setCommit k d).ackLog = s.ackLog := rfl
@[simp] theorem setCommit_evlog : (s.setCommit k d).evlog = s.evlog := rfl
@[simp] theorem setCommit_rules : (s.setCommit k d).rules = s.rules := rfl

@[simp] theorem delCommit_commit : (s.delCommit k).ps.commit = upd s.ps.commit k none := rfl
@[simp] theorem delCommit_receipt : (s.delCommit k).ps.receipt = s.ps.receipt := rfl
@[simp] theorem delCommit_ack : (s.delCommit k).ps.ack = s.ps.ack := rfl
@[simp] theorem delCommit_clean : (s.delCommit k).ps.clean = s.ps.clean := rfl
@[simp] theorem delCommit_maxAck : (s.delCommit k).ps.maxAck = s.ps.maxAck := rfl
@[simp] theorem delCommit_nextSend : (s.delCommit k).ps.nextSend = s.ps.nextSend := rfl
@[simp] theorem delCommit_clients : (s.delCommit k).clients = s.clients := rfl
@[simp] theorem delCommit_name : (s.delCommit k).name = s.name := rfl
@[simp] theorem delCommit_sent : (s.delCommit k).sent = s.sent := rfl
@[simp] theorem delCommit_ackLog : (s.delCommit k).ackLog = s.ackLog := rfl
@[simp] theorem delCommit_evlog : (s.delCommit k).evlog = s.evlog := rfl

@[simp] theorem setReceipt_commit : (s.setReceipt k).ps.commit = s.ps.commit := rfl
@[simp] theorem setReceipt_receipt : (s.setReceipt k).ps.receipt = upd s.ps.receipt k true := rfl
@[simp] theorem setReceipt_ack : (s.setReceipt k).ps.ack = s.ps.ack := rfl
@[simp] theorem setReceipt_clean : (s.setReceipt k).ps.clean = s.ps.clean := rfl
@[simp] theorem setReceipt_maxAck : (s.setReceipt k).ps.maxAck = s.ps.maxAck := rfl
@[simp] theorem setReceipt_nextSend : (s.setReceipt k).ps.nextSend = s.ps.nextSend := rfl
@[simp] theorem setReceipt_clients : (s.setReceipt k).clients = s.clients := rfl
@[simp] theorem setReceipt_name : (s.setReceipt k).name = s.name := rfl
@[simp] theorem setReceipt_sent : (s.setReceipt k).sent = s.sent := rfl
@[simp] theorem setReceipt_ackLog : (s.setReceipt k).ackLog = s.ackLog := rfl
@[simp] theorem setReceipt_evlog : (s.setReceipt k).evlog = s.evlog := rfl
@[simp] theorem setReceipt_rules : (s.setReceipt k).rules = s.rules := rfl

@[simp] theorem delReceipt_commit : (s.delReceipt k).ps.commit = s.ps.commit := rfl
@[simp] theorem delReceipt_receipt : (s.delReceipt k).ps.receipt = upd s.ps.receipt k false := rfl
@[simp] theorem delReceipt_ack : (s.delReceipt k).ps.ack = s.ps.ack := rfl
@[simp] theorem delReceipt_clean : (s.delReceipt k).ps.clean = s.ps.clean := rfl
@[simp] theorem delReceipt_maxAck : (s.delReceipt k).ps.maxAck = s.ps.maxAck := rfl
@[simp] theorem delReceipt_nextSend : (s.delReceipt k).ps.nextSend = s.ps.nextSend := rfl
@[simp] theorem delReceipt_clients : (s.delReceipt k).clients = s.clients := rfl
@[simp] theorem delReceipt_name : (s.delReceipt k).name = s.name := rfl
@[simp] theorem delReceipt_sent : (s.delReceipt k).sent = s.sent := rfl
@[simp] theorem delReceipt_ackLog : (s.delReceipt k).ackLog = s.ackLog := rfl
@[simp] theorem delReceipt_evlog : (s.delReceipt k).evlog = s.evlog := rfl

@[simp] theorem setAck_commit : (s.setAck k d).ps.commit = s.ps.commit := rfl
@[simp] theorem setAck_receipt : (s.setAck k d).ps.receipt = s.ps.receipt := rfl
@[simp] theorem setAck_ack : (s.setAck k d).ps.ack = upd s.ps.ack k (some d) := rfl
@[simp] theorem setAck_clean : (s.setAck k d).ps.clean = s.ps.clean := rfl
@[simp] theorem setAck_maxAck : (s.setAck k d).ps.maxAck = s.ps.maxAck := rfl
@[simp] theorem setAck_nextSend : (s.setAck k d).ps.nextSend = s.ps.nextSend := rfl
@[simp] theorem setAck_clients : (s.setAck k d).clients = s.clients := rfl
@[simp] theorem setAck_name : (s.setAck k d).name = s.name := rfl
@[simp] theorem setAck_sent : (s.setAck k d).sent = s.sent := rfl
@[simp] theorem setAck_ackLog : (s.setAck k d).ackLog = s.ackLog := rfl
@[simp] theorem setAck_evlog : (s.setAck k d).evlog = s.evlog := rfl

@[simp] theorem delAck_commit : (s.delAck k).ps.commit = s.ps.commit := rfl
@[simp] theorem delAck_receipt : (s.delAck k).ps.receipt = s.ps.receipt := rfl
@[simp] theorem delAck_ack : (s.delAck k).ps.ack = upd s.ps.ack k none := rfl
@[simp] theorem delAck_clean : (s.delAck k).ps.clean = s.ps.clean := rfl
@[simp] theorem delAck_maxAck : (s.delAck k).ps.maxAck = s.ps.maxAck := rfl
@[simp] theorem delAck_nextSend : (s.delAck k).ps.nextSend = s.ps.nextSend := rfl
@[simp] theorem delAck_clients : (s.delAck k).clients = s.clients := rfl
@[simp] theorem delAck_name : (s.delAck k).name = s.name := rfl
@[simp] theorem delAck_sent : (s.delAck k).sent = s.sent := rfl
@[simp] theorem delAck_ackLog : (s.delAck k).ackLog = s.ackLog := rfl
@[simp] theorem delAck_evlog : (s.delAck k).evlog = s.evlog := rfl

@[simp] theorem setClean_commit : (s.setClean pr n).ps.commit = s.ps.commit := rfl
@[simp] theorem setClean_receipt : (s.setClean pr n).ps.receipt = s.ps.receipt := rfl
@[simp] theorem setClean_ack : (s.setClean pr n).ps.ack = s.ps.ack := rfl
@[simp] theorem setClean_clean : (s.setClean pr n).ps.clean = upd s.ps.clean pr n := rfl
@[simp] theorem setClean_maxAck : (s.setClean pr n).ps.maxAck = s.ps.maxAck := rfl
@[simp] theorem setClean_nextSend : (s.setClean pr n).ps.nextSend = s.ps.nextSend := rfl
@[simp] theorem setClean_clients : (s.setClean pr n).clients = s.clients := rfl
@[simp] theorem setClean_name : (s.setClean pr n).name = s.name := rfl
@[simp] theorem setClean_sent : (s.setClean pr n).sent = s.sent := rfl
@[simp] theorem setClean_ackLog : (s.setClean pr n).ackLog = s.ackLog := rfl
@[simp] theorem setClean_evlog : (s.setClean pr n).evlog = s.evlog := rfl

@[simp] theorem setMaxAck_commit : (s.setMaxAck pr n).ps.commit = s.ps.commit := rfl
@[simp] theorem setMaxAck_receipt : (s.setMaxAck pr n).ps.receipt = s.ps.receipt := rfl
@[simp] theorem setMaxAck_ack : (s.setMaxAck pr n).ps.ack = s.ps.ack := rfl
@[simp] theorem setMaxAck_clean : (s.setMaxAck pr n).ps.clean = s.ps.clean := rfl
@[simp] theorem setMaxAck_nextSend : (s.setMaxAck pr n).ps.nextSend = s.ps.nextSend := rfl
@[simp] theorem setMaxAck_clients : (s.setMaxAck pr n).clients = s.clients := rfl
@[simp] theorem setMaxAck_name : (s.setMaxAck pr n).name = s.name := rfl
@[simp] theorem setMaxAck_sent : (s.setMaxAck pr n).sent = s.sent := rfl
@[simp] theorem setMaxAck_ackLog : (s.setMaxAck pr n).ackLog = s.ackLog := rfl
@[simp] theorem setMaxAck_evlog : (s.setMaxAck pr n).evlog = s.evlog := rfl
theorem setMaxAck_maxAck : (s.setMaxAck pr n).ps.maxAck =
    upd s.ps.maxAck pr (if n > s.ps.maxAck pr then n else s.ps.maxAck pr) := rfl

@[simp] theorem setNextSend_commit : (s.setNextSend pr n).ps.commit = s.ps.commit := rfl
@[simp] theorem setNextSend_receipt : (s.setNextSend pr n).ps.receipt = s.ps.receipt := rfl
@[simp] theorem setNextSend_ack : (s.setNextSend pr n).ps.ack = s.ps.ack := rfl
@[simp] theorem setNextSend_clean : (s.setNextSend pr n).ps.clean = s.ps.clean := rfl
@[simp] theorem setNextSend_maxAck : (s.setNextSend pr n).ps.maxAck = s.ps.maxAck := rfl
@[simp] theorem setNextSend_nextSend : (s.setNextSend pr n).ps.nextSend = upd s.ps.nextSend pr n := rfl
@[simp] theorem setNextSend_clients : (s.setNextSend pr n).clients = s.clients := rfl
@[simp] theorem setNextSend_name : (s.setNextSend pr n).name = s.name := rfl
@[simp] theorem setNextSend_sent : (s.setNextSend pr n).sent = s.sent := rfl
@[simp] theorem setNextSend_ackLog : (s.setNextSend pr n).ackLog = s.ackLog := rfl
@[simp] theorem setNextSend_evlog : (s.setNextSend pr n).evlog = s.evlog := rfl

end Core
end Tibc
