import Tibc.Lemmas.Log
/-
  The potential behind at-most-once acknowledgement processing: for a key whose source is this
  chain, (sequence not yet handed out) + (commitment present) never increases, and an accepted
  acknowledgement uses it up.  Needs: the chain holds no light client of itself (otherwise it
  could, as its own relay chain, re-commit a packet it has already acknowledged).
-/
namespace Tibc
open Core

variable (H : Data → Digest) (Hc : Str → Str)

def NoSelf (s : Core) : Prop := s.clients s.name = none

/-- the potential of key `k` in the core state: 1 while its sequence is still to be handed out, 1 while its commitment is there -/
def potCore (s : Core) (k : PKey) : Nat :=
  (if k.seq ≥ s.ps.nextSend k.pair then 1 else 0) + (if (s.ps.commit k).isSome then 1 else 0)

/-- an accepted acknowledgement deletes the packet's commitment: one unit of that key's potential goes -/
theorem potCore_ackWrites {s : Core} {p : Packet} {a : Data} {π : Proof} {h : Nat} (hok : AckOk H s p a π h) (k : PKey) :
    potCore (ackWrites H s p a).1 k + (if p.key = k then 1 else 0) = potCore s k := by
  unfold potCore; rw [ackWrites_eq]
  show _ + (if (upd s.ps.commit p.key none k).isSome then 1 else 0) + _ = _
  by_cases hk : p.key = k
  · rw [if_pos hk, ← hk, upd_same, hok.2.1]; rfl
  · rw [if_neg hk, upd_other _ _ _ _ (Ne.symm hk)]; rfl

theorem Accepted.pot {s t : Core} (h : Accepted H s t) (hn : NoSelf s) (k : PKey) (hk : k.src = s.name) :
    potCore t k ≤ potCore s k := by
  cases h with
  | send p hok =>
    show (if k.seq ≥ upd s.ps.nextSend p.pair (s.ps.nextSend p.pair + 1) k.pair then 1 else 0) +
        (if (upd s.ps.commit p.key (some (H p.data)) k).isSome then 1 else 0) ≤ potCore s k
    rw [upd_apply, upd_apply]
    by_cases hkey : k = p.key
    · -- the sequence just handed out: the potential moves from the counter to the commitment
      subst hkey
      show (if p.seq ≥ (if p.pair = p.pair then _ else _) then 1 else 0) + _ ≤ (if p.seq ≥ s.ps.nextSend p.pair then 1 else 0) + _
      rw [if_pos rfl, if_pos rfl, hok.seq, if_neg (Nat.not_succ_le_self _), if_pos (Nat.le_refl _)]
      exact Nat.le_add_right 1 _
    · rw [if_neg hkey]
      refine Nat.add_le_add_right ?_ _
      by_cases hpair : k.pair = p.pair
      · rw [if_pos hpair, hpair]; split <;> split <;> omega
      · rw [if_neg hpair]; exact Nat.le_refl _
  | recv p π h hok =>
    rw [recvWrites_eq]
    show (if k.seq ≥ s.ps.nextSend k.pair then 1 else 0) +
        (if ((if forwards s p then upd s.ps.commit p.key (some (H p.data)) else s.ps.commit) k).isSome then 1 else 0) ≤ _
    by_cases hf : forwards s p = true
    · -- a relay chain re-committing its own packet would need a client of itself
      have hr : p.relay = s.name := ((forwards_iff s p).mp hf).1
      have hkey : k ≠ p.key := by
        rintro rfl
        obtain ⟨cl, _, hcl, _⟩ := hok.shown
        have : recvProver s p = s.name := by
          unfold recvProver; split
          · exact hr
          · exact hk
        rw [this, hn] at hcl; cases hcl
      rw [if_pos hf, upd_other _ _ _ _ hkey]; exact Nat.le_refl _
    · rw [if_neg hf]; exact Nat.le_refl _
  | writeAck p a => exact Nat.le_refl _
  | ack p a π h hok => exact Nat.le.intro (potCore_ackWrites H hok k)
  | clean cp => exact Nat.le_refl _
  | recvClean cp π h => rw [recvCleanWrites_eq]; exact Nat.le_refl _

theorem Mono.noSelf {s t : Core} (h : Mono s t) (hn : NoSelf s) : NoSelf t := by
  unfold NoSelf; rw [h.clients, h.name]; exact hn

theorem Prims.pot {s t : Core} (h : Prims H s t) (hn : NoSelf s) (k : PKey) (hk : k.src = s.name) :
    potCore t k ≤ potCore s k :=
  Prims.lift H (R := fun s t => NoSelf s → k.src = s.name → potCore t k ≤ potCore s k)
    (fun _ _ _ => Nat.le_refl _) (fun _ _ ha hn hk => ha.pot H hn k hk)
    (fun m1 _ r1 r2 hn hk => Nat.le_trans (r2 (m1.noSelf hn) (hk.trans m1.name.symm)) (r1 hn hk)) h hn hk

/-- number of times the source application's acknowledgement callback ran for key `k` -/
def ackCalls (s : State) (k : PKey) : Nat :=
  (s.cbLog.filter (fun e => e.kind == "ack" && e.key == k)).length

/-- … plus the acknowledgement callbacks already run for `k`: at most 1 in all (`AckInv.own`) -/
def pot (s : State) (k : PKey) : Nat := potCore s.core k + ackCalls s k

/-- per chain: the name is the chain's, no client of itself, every own-source key holds at most one
    unit of potential, and callbacks ran only for own-source keys -/
structure AckInv (q : Chain) (s : State) : Prop where
  name : s.core.name = q
  noSelf : NoSelf s.core
  own : ∀ k, k.src = q → pot s k ≤ 1
  other : ∀ k, k.src ≠ q → ackCalls s k = 0

theorem ackCalls_append (s t : State) (l : List CbEntry) (k : PKey) (h : t.cbLog = s.cbLog ++ l) :
    ackCalls t k = ackCalls s k + (l.filter (fun e => e.kind == "ack" && e.key == k)).length := by
  unfold ackCalls; rw [h, List.filter_append, List.length_append]

theorem ackInv_of_delta {q : Chain} {s t : State} (hi : AckInv q s)
    (hp : Prims H s.core t.core) (hl : LogDelta H s t) : AckInv q t := by
  have hm := hp.mono H
  have hname : t.core.name = q := hm.name.trans hi.name
  have hns : NoSelf t.core := hm.noSelf hi.noSelf
  -- as long as no acknowledgement callback is logged, the potential can only shrink
  have keep : (∀ k, ackCalls t k = ackCalls s k) → AckInv q t := fun hc =>
    ⟨hname, hns, fun k hk => by
      have := hp.pot H hi.noSelf k (hk.trans hi.name.symm)
      have := hi.own k hk
      unfold pot at *; rw [hc]; omega,
    fun k hk => by rw [hc]; exact hi.other k hk⟩
  cases hl with
  | same e => exact keep fun k => by unfold ackCalls; rw [e]
  | recv p π h e _ _ _ => exact keep fun k => by rw [ackCalls_append s t _ k e]; simp
  | ack p a π h e hok hsrc hcore =>
    -- the potential of `p.key` passes from the commitment to the callback count: `pot` does not move
    have hcalls : ∀ k, ackCalls t k = ackCalls s k + if p.key = k then 1 else 0 := fun k => by
      rw [ackCalls_append s t _ k e]; by_cases hk : p.key = k <;> simp [hk]
    have hpot := fun k => hcore ▸ potCore_ackWrites H hok k
    refine ⟨hname, hns, fun k hk => ?_, fun k hk => ?_⟩
    · have := hi.own k hk
      have := hcalls k
      have := hpot k
      unfold pot at *; omega
    · have hkey : p.key ≠ k := fun h => hk (h ▸ hsrc.trans hi.name)
      rw [hcalls, if_neg hkey, Nat.add_zero]; exact hi.other k hk

theorem ackInv_of_frame {q : Chain} {s t : State} (hi : AckInv q s) (hname : t.core.name = s.core.name)
    (hps : t.core.ps = s.core.ps) (hcb : t.cbLog = s.cbLog) (hns : NoSelf t.core) : AckInv q t := by
  have hc : ∀ k, ackCalls t k = ackCalls s k := fun k => by unfold ackCalls; rw [hcb]
  have hp : ∀ k, potCore t.core k = potCore s.core k := fun k => by unfold potCore; rw [hps]
  exact ⟨hname.trans hi.name, hns, fun k hk => by unfold pot; rw [hc, hp]; exact hi.own k hk,
    fun k hk => by rw [hc]; exact hi.other k hk⟩

theorem Local.ackInv {w : World} {op : Op} {t : State} (h : Local H Hc w op t) (hsc : op.selfClient = false)
    (hI : AckInv op.chain (w op.chain)) : AckInv op.chain t := by
  have hn : (w op.chain).core.clients op.chain = none := by have := hI.noSelf; rwa [NoSelf, hI.name] at this
  have other : ∀ {q : Chain} (cl : Client), q ≠ op.chain → NoSelf (setClient (w op.chain) q cl).core := fun _ hq => by
    show upd _ _ _ (w op.chain).core.name = none
    rw [hI.name, upd_other _ _ _ _ (Ne.symm hq)]; exact hn
  cases h with
  | tx hd => exact ackInv_of_delta H hI (hd.prims H Hc) (hd.log H Hc)
  | create q cl hs =>
    refine ackInv_of_frame hI rfl rfl rfl (other cl fun e => ?_)
    rw [hsc, e, beq_self_eq_true] at hs; cases hs
  | modify q cl0 cl hcl0 =>
    refine ackInv_of_frame hI rfl rfl rfl (other cl fun e => ?_)
    rw [e, hn] at hcl0; cases hcl0
  | config => exact ackInv_of_frame hI rfl rfl rfl hI.noSelf
  | user => exact ackInv_of_frame hI rfl rfl rfl hI.noSelf

end Tibc
